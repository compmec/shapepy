/-
M8 — control structure of the recombination loops.  Mathlib-free, executable, no geometry: every geometric
question the Python asks is an ORACLE passed as a parameter, so the theorems about these functions hold for
every possible behaviour of the geometric predicates (exact, rounded, or wrong).

Mirrors (line numbers of /repo/src/shapepy/shape.py unless stated otherwise):
 * `pursueNext`, `pursuePathFuel`, `pursuePath`   — `FollowPath.pursue_path`            l.158–198
 * `isRotation`                                    — `FollowPath.is_rotation`            l.201–223
 * `filterRotations`                               — `FollowPath.filter_rotations`       l.226–241
 * `pursueAll`, `followPath`                       — `FollowPath.follow_path`            l.263–281 (index level:
                                                      `indexs_to_jordan` l.244–260 is a table look-up)
 * `startIndexs`                                   — `midpoints_one_shape`/`midpoints_shapes` l.284–324
 * `popMax`, `growFuel`/`grow`, `divideConnectedsFuel`/`divideConnecteds` — `DivideConnecteds` l.1194–1231
 * `findUnion`, `cleanLoopFuel`, `cleanLoop`       — `JordanCurve.clean`, jordancurve.py  l.278–303

Every Python `while` loop is modelled TWICE where useful: with an explicit fuel argument (kernel-reducible, used
by the examples; running out of fuel is reported, never silently absorbed) and/or by well-founded recursion
(totality checked by Lean; the few lemmas below are the termination arguments needed by `decreasing_by` — for
`divideConnecteds` the loop invariant of `grow`, `grow_spec`, stated once with all that is proved along a run of `grow`).
The theorems of `Props/C01b.lean` state that the fuel is never exhausted.
-/

namespace ShapeVerif

/-! ## `FollowPath.pursue_path` -/

/-- abnormal ends of a modelled loop -/
inductive LoopErr
  /-- model artefact: the explicit fuel ran out (`C01b.pursuePath_never_hangs` shows it cannot) -/
  | outOfFuel
  /-- `all_segments[index_jordan]` with `index_jordan ≥ len(jordans)` (Python `IndexError`) -/
  | indexError
  /-- `index_segment %= len(all_segments[index_jordan])` with an empty curve (Python `ZeroDivisionError`) -/
  | zeroDivision
deriving DecidableEq, Repr

deriving instance DecidableEq for Except

/-- a pair `(index_jordan, index_segment)` -/
abbrev Idx := Nat × Nat

/-- The geometric oracle of `pursue_path`, asked about the END point `P` of segment `s` of curve `j`
(l.183–197):
 * `none`                — `possibles` is empty: `P` lies on no other curve;
 * `some (j', some s')`  — `j' = possibles[0]` is the first other curve containing `P` and `s'` is the first
                           segment of `j'` whose first control point equals `P` (the `for … break` of l.194–197);
 * `some (j', none)`     — `j' = possibles[0]` but NO segment of `j'` starts at `P` (the `for` of l.194 ends
                           without `break`): the code then keeps the OLD `index_segment`. -/
abbrev Jump := Nat → Nat → Option (Nat × Option Nat)

/-- l.183–197: the pair `(index_jordan, index_segment)` at the end of one iteration, BEFORE the `%=` of the
next one -/
def pursueNext (jump : Jump) (cur : Idx) : Idx :=
  match jump cur.1 cur.2 with
  | none => (cur.1, cur.2 + 1)            -- l.190–192 `index_segment += 1; continue`
  | some (j', some s') => (j', s')        -- l.193, l.196
  | some (j', none) => (j', cur.2)        -- l.193, the loop of l.194 finds nothing

/-- the `while True` loop of l.177–197 with explicit fuel.  `lens[j] = len(jordans[j].segments)`;
`p` = the current `(index_jordan, index_segment)` at the top of the loop; `matrix` = the list built so far. -/
def pursuePathFuel (lens : List Nat) (jump : Jump) : Nat → Idx → List Idx → Except LoopErr (List Idx)
  | 0, _, _ => .error .outOfFuel
  | fuel + 1, p, matrix =>
    match lens[p.1]? with
    | none => .error .indexError                         -- l.178 `all_segments[index_jordan]`
    | some n =>
      if n = 0 then .error .zeroDivision                 -- l.178 `%= 0`
      else
        let cur : Idx := (p.1, p.2 % n)                  -- l.178
        if cur ∈ matrix then .ok matrix                  -- l.180–181
        else pursuePathFuel lens jump fuel (pursueNext jump cur) (matrix ++ [cur])   -- l.182–197

/-- `FollowPath.pursue_path(index_jordan, index_segment, jordans)`; the fuel is the total number of
segments plus one -/
def pursuePath (lens : List Nat) (jump : Jump) (start : Idx) : Except LoopErr (List Idx) :=
  pursuePathFuel lens jump (lens.sum + 1) start []

/-- l.178 alone: the pair after `index_segment %= len(...)` (`s % 0 = s` in Lean; the loop raises instead) -/
def normIdx (lens : List Nat) (p : Idx) : Idx := (p.1, p.2 % lens[p.1]?.getD 0)

/-- one full turn of the loop seen from a normalised pair: l.183–197 followed by l.178 -/
def pursueStep (lens : List Nat) (jump : Jump) (cur : Idx) : Idx := normIdx lens (pursueNext jump cur)

/-- `(j, s)` designates an existing segment -/
def validIdx (lens : List Nat) (p : Idx) : Prop := ∃ n, lens[p.1]? = some n ∧ p.2 < n

instance (lens : List Nat) (p : Idx) : Decidable (validIdx lens p) :=
  match h : lens[p.1]? with
  | none => isFalse (by intro ⟨n, h1, _⟩; simp [h] at h1)
  | some n => if h2 : p.2 < n then isTrue ⟨n, h, h2⟩
              else isFalse (by intro ⟨m, h1, h3⟩; simp [h] at h1; subst h1; exact h2 h3)

/-! ## `FollowPath.is_rotation`, `filter_rotations`, `follow_path` -/

/-- `FollowPath.is_rotation(oneobj, other)` (l.201–223).
`[] , []` gives `false`: the `for elem in oneobj` loop of l.212 ends without `break`, so its `else` returns
`False`. -/
def isRotation {α} [DecidableEq α] (a b : List α) : Bool :=
  if a.length ≠ b.length then false                      -- l.209–210
  else match b with
    | [] => false                                        -- l.212–217 with `oneobj` empty
    | b0 :: _ =>
      let rotation := a.idxOf b0                         -- l.211–215: first index with `elem == other[0]`
      if rotation < a.length then                        -- otherwise l.216–217 `else: return False`
        (List.range b.length).all fun i =>               -- l.219–222
          decide (b[i]? = a[(i + rotation) % b.length]?)
      else false

/-- `FollowPath.filter_rotations` (l.226–241): keep a line unless it is a rotation of an already kept line -/
def filterRotations {α} [DecidableEq α] (matrix : List (List α)) : List (List α) :=
  matrix.foldl (fun filtered line =>
    if filtered.any (fun fline => isRotation line fline) then filtered else filtered ++ [line]) []

/-- l.273–275 of `follow_path`: one `pursue_path` per start pair (the first exception propagates) -/
def pursueAll (lens : List Nat) (jump : Jump) : List Idx → Except LoopErr (List (List Idx))
  | [] => .ok []
  | p :: ps =>
    match pursuePath lens jump p with
    | .error e => .error e
    | .ok m =>
      match pursueAll lens jump ps with
      | .error e => .error e
      | .ok ms => .ok (m :: ms)

/-- `FollowPath.follow_path` at the index level (l.272–276); every returned line is then turned into a curve by
`indexs_to_jordan` -/
def followPath (lens : List Nat) (jump : Jump) (starts : List Idx) : Except LoopErr (List (List Idx)) :=
  match pursueAll lens jump starts with
  | .error e => .error e
  | .ok ms => .ok (filterRotations ms)

/-- `midpoints_shapes` (l.284–324) at the index level: `keep j s` is the oracle "the mid point of segment `s`
of curve `j` (numbered over `shapea.jordans + shapeb.jordans`) is outside the other operand, boundary counted
as inside" (union, l.333) / "inside the other operand, boundary counted as outside" (intersection, l.347). -/
def startIndexs (lens : List Nat) (keep : Nat → Nat → Bool) : List Idx :=
  (List.range lens.length).flatMap fun j =>
    ((List.range (lens[j]?.getD 0)).filter (keep j)).map fun s => (j, s)

/-! ## `DivideConnecteds` -/

/-- `index = absareas.index(max(absareas)); simples.pop(index)` (l.1211–1214): the FIRST item of maximal key
and the list without it -/
def popMax {α β} [LE β] [DecidableRel (α := β) (· ≤ ·)] (key : α → β) : List α → Option (α × List α)
  | [] => none
  | x :: xs =>
    match popMax key xs with
    | none => some (x, [])
    | some (y, ys) => if key y ≤ key x then some (x, xs) else some (y, x :: ys)

/-- the inner `while len(simples)` loop, l.1215–1225: `internal` = the items compatible with EVERY member of
`connected`, the others go to `externals`.  `compatible simple subsimple` stands for
`not (jordan not in subsimple or subjordan not in simple)`. -/
def splitInternal {α} (compatible : α → α → Bool) (connected simples : List α) : List α × List α :=
  simples.partition fun simple => connected.all fun subsimple => compatible simple subsimple

/-- the outer `while len(simples)` loop, l.1210–1226, with fuel: returns `(connected, externals)`;
`none` = out of fuel -/
def growFuel {α β} [LE β] [DecidableRel (α := β) (· ≤ ·)] (key : α → β) (compatible : α → α → Bool) :
    Nat → List α → List α → List α → Option (List α × List α)
  | 0, _, _, _ => none
  | fuel + 1, simples, connected, externals =>
    match popMax key simples with
    | none => some (connected, externals)                                   -- l.1210 `len(simples) == 0`
    | some (m, rest) =>
      let connected' := connected ++ [m]                                    -- l.1214
      let io := splitInternal compatible connected' rest                    -- l.1215–1225
      growFuel key compatible fuel io.1 connected' (externals ++ io.2)      -- l.1226

/-- `DivideConnecteds` (l.1194–1231) with fuel: the list of groups (a group of length 1 is returned by the
Python as the `SimpleShape` itself, a longer one as `ConnectedShape(group)`); `none` = out of fuel -/
def divideConnectedsFuel {α β} [LE β] [DecidableRel (α := β) (· ≤ ·)] (key : α → β)
    (compatible : α → α → Bool) : Nat → List α → Option (List (List α))
  | 0, _ => none
  | fuel + 1, simples =>
    if simples.isEmpty then some []                                         -- l.1205–1206
    else
      match growFuel key compatible (simples.length + 1) simples [] [] with
      | none => none
      | some (connected, externals) =>
        match divideConnectedsFuel key compatible fuel externals with       -- l.1231
        | none => none
        | some groups => some (connected :: groups)

theorem popMax_eq_none {α β} [LE β] [DecidableRel (α := β) (· ≤ ·)] (key : α → β) (l : List α) :
    popMax key l = none ↔ l = [] := by
  fun_induction popMax key l <;> simp

/-- the popped item and the rest are the input, rearranged -/
theorem popMax_perm {α β} [LE β] [DecidableRel (α := β) (· ≤ ·)] (key : α → β) (l : List α) (m : α) (rest : List α)
    (h : popMax key l = some (m, rest)) : l.Perm (m :: rest) := by
  fun_induction popMax key l generalizing m rest with
  | case1 => cases h
  | case2 x xs hp => cases h; rw [(popMax_eq_none key xs).1 hp]
  | case3 x xs y ys hp hle => cases h; exact .refl _
  | case4 x xs y ys hp hle ih => cases h; exact ((ih _ _ hp).cons x).trans (.swap _ _ _)

theorem popMax_length {α β} [LE β] [DecidableRel (α := β) (· ≤ ·)] (key : α → β) :
    ∀ (l : List α) (m : α) (rest : List α), popMax key l = some (m, rest) → rest.length + 1 = l.length :=
  fun l m rest h => (popMax_perm key l m rest h).length_eq.symm

theorem splitInternal_perm {α} (compatible : α → α → Bool) (connected simples : List α) :
    ((splitInternal compatible connected simples).1 ++
      (splitInternal compatible connected simples).2).Perm simples := by
  unfold splitInternal
  rw [List.partition_eq_filter_filter]
  exact List.filter_append_perm _ _

theorem splitInternal_length {α} (compatible : α → α → Bool) (connected simples : List α) :
    (splitInternal compatible connected simples).1.length +
      (splitInternal compatible connected simples).2.length = simples.length := by
  rw [← List.length_append]
  exact (splitInternal_perm compatible connected simples).length_eq

theorem splitInternal_fst {α} (compatible : α → α → Bool) (connected simples : List α) :
    ∀ x ∈ (splitInternal compatible connected simples).1, ∀ c ∈ connected, compatible x c = true := by
  unfold splitInternal
  rw [List.partition_eq_filter_filter]
  exact fun x hx => List.all_eq_true.1 (List.mem_filter.1 hx).2

/-- the outer loop of l.1210–1226 by well-founded recursion: `internal` is shorter than `simples` because the
maximal item was popped -/
def grow {α β} [LE β] [DecidableRel (α := β) (· ≤ ·)] (key : α → β) (compatible : α → α → Bool)
    (simples connected externals : List α) : List α × List α :=
  match _h : popMax key simples with
  | none => (connected, externals)
  | some (m, rest) =>
    grow key compatible (splitInternal compatible (connected ++ [m]) rest).1 (connected ++ [m])
      (externals ++ (splitInternal compatible (connected ++ [m]) rest).2)
termination_by simples.length
decreasing_by
  have h1 := popMax_length key simples m rest _h
  have h2 := splitInternal_length compatible (connected ++ [m]) rest
  omega

theorem grow_none {α β} [LE β] [DecidableRel (α := β) (· ≤ ·)] (key : α → β) (compatible : α → α → Bool)
    (simples connected externals : List α) (h : popMax key simples = none) :
    grow key compatible simples connected externals = (connected, externals) := by
  rw [grow]; split
  · rfl
  · simp_all

theorem grow_some {α β} [LE β] [DecidableRel (α := β) (· ≤ ·)] (key : α → β) (compatible : α → α → Bool)
    (simples connected externals : List α) (m : α) (rest : List α) (h : popMax key simples = some (m, rest)) :
    grow key compatible simples connected externals =
      grow key compatible (splitInternal compatible (connected ++ [m]) rest).1 (connected ++ [m])
        (externals ++ (splitInternal compatible (connected ++ [m]) rest).2) := by
  rw [grow]; split
  · simp_all
  · rename_i m' rest' h'; rw [h] at h'; cases h'; rfl

/-- the invariant of the outer loop, by one induction on its run: no item is lost, `connected` grows at its end, and it
stays a group if it was one and every item of `simples` was compatible with it -/
theorem grow_spec {α β} [LE β] [DecidableRel (α := β) (· ≤ ·)] (key : α → β) (compatible : α → α → Bool)
    (simples connected externals : List α) :
    ((grow key compatible simples connected externals).1 ++
      (grow key compatible simples connected externals).2).Perm (connected ++ externals ++ simples) ∧
    connected <+: (grow key compatible simples connected externals).1 ∧
    (connected.Pairwise (fun a b => compatible b a = true) →
      (∀ x ∈ simples, ∀ c ∈ connected, compatible x c = true) →
      (grow key compatible simples connected externals).1.Pairwise (fun a b => compatible b a = true)) := by
  fun_induction grow key compatible simples connected externals with
  | case1 simples connected externals h =>
    rw [(popMax_eq_none key simples).1 h]
    exact ⟨by simp, List.prefix_refl _, fun hc _ => hc⟩
  | case2 simples connected externals m rest h ih =>
    obtain ⟨ihp, ihpre, ihg⟩ := ih
    have h1 := popMax_perm key simples m rest h
    refine ⟨?_, (List.prefix_append _ _).trans ihpre, fun hc hs => ihg ?_ ?_⟩
    · classical
      have h2 := splitInternal_perm compatible (connected ++ [m]) rest
      rw [List.perm_iff_count] at ihp h1 h2 ⊢
      intro a
      have e1 := ihp a; have e2 := h1 a; have e3 := h2 a
      simp only [List.count_append, List.count_cons, List.count_nil] at e1 e2 e3 ⊢
      omega
    · rw [List.pairwise_append]
      refine ⟨hc, List.pairwise_singleton _ _, fun a ha b hb => ?_⟩
      rw [List.mem_singleton.1 hb]
      exact hs m (h1.symm.subset List.mem_cons_self) a ha
    · exact splitInternal_fst compatible _ _

/-- the group starts where `connected` ends with the item `popMax` selects -/
theorem grow_head {α β} [LE β] [DecidableRel (α := β) (· ≤ ·)] (key : α → β) (compatible : α → α → Bool)
    {simples : List α} (connected externals : List α) {m : α} {rest : List α}
    (h : popMax key simples = some (m, rest)) :
    connected ++ [m] <+: (grow key compatible simples connected externals).1 := by
  rw [grow_some _ _ _ _ _ m rest h]
  exact (grow_spec key compatible _ _ _).2.1

theorem grow_length {α β} [LE β] [DecidableRel (α := β) (· ≤ ·)] (key : α → β) (compatible : α → α → Bool)
    (simples connected externals : List α) :
    (grow key compatible simples connected externals).1.length +
      (grow key compatible simples connected externals).2.length
      = simples.length + connected.length + externals.length ∧
    (simples ≠ [] → connected.length <
      (grow key compatible simples connected externals).1.length) ∧
    connected.length ≤ (grow key compatible simples connected externals).1.length := by
  have hp := (grow_spec key compatible simples connected externals).1.length_eq
  simp only [List.length_append] at hp
  refine ⟨by omega, fun hne => ?_, (grow_spec key compatible simples connected externals).2.1.length_le⟩
  cases h : popMax key simples with
  | none => exact absurd ((popMax_eq_none key simples).1 h) hne
  | some mr =>
    have := (grow_head key compatible connected externals h).length_le
    simp only [List.length_append, List.length_cons, List.length_nil] at this
    omega

/-- `DivideConnecteds` (l.1194–1231) by well-founded recursion on `len(simples)`:
`len(externals) < len(simples)` because `connected` received at least the maximal item -/
def divideConnecteds {α β} [LE β] [DecidableRel (α := β) (· ≤ ·)] (key : α → β)
    (compatible : α → α → Bool) (simples : List α) : List (List α) :=
  if _h : simples = [] then []
  else
    (grow key compatible simples [] []).1 ::
      divideConnecteds key compatible (grow key compatible simples [] []).2
termination_by simples.length
decreasing_by
  have h1 := grow_length key compatible simples [] []
  have h2 := h1.2.1 _h
  have h3 := h1.1
  simp only [List.length_nil] at h2 h3
  omega

/-! ## `JordanCurve.clean` -/

/-- the `for i in range(nsegments)` scan of jordancurve.py l.281–300, from index `i` with `todo` indices left:
the first `i` at which `segments[i] | segments[(i+1) % nsegments]` succeeds, with the united segment.
`unite seg0 seg1 = none` stands for `seg0.degree != seg1.degree` (l.285) or `ValueError` (l.299). -/
def findUnionFrom {σ} (unite : σ → σ → Option σ) (segs : List σ) : Nat → Nat → Option (Nat × σ)
  | 0, _ => none                                                           -- l.301 `else:` of the `for`
  | todo + 1, i =>
    match segs[i]?, segs[(i + 1) % segs.length]? with
    | some seg0, some seg1 =>
      match unite seg0 seg1 with
      | some u => some (i, u)                                              -- l.290–298 `break`
      | none => findUnionFrom unite segs todo (i + 1)                      -- l.286 / l.299–300
    | _, _ => findUnionFrom unite segs todo (i + 1)                        -- unreachable: both indices < n

/-- `for i in range(nsegments)` -/
def findUnion {σ} (unite : σ → σ → Option σ) (segs : List σ) : Option (Nat × σ) :=
  findUnionFrom unite segs segs.length 0

/-- the `while True` loop of `JordanCurve.clean` (jordancurve.py l.279–302) with fuel; returns the final
segment list and the number of unions performed; `none` = out of fuel -/
def cleanLoopFuel {σ} (unite : σ → σ → Option σ) : Nat → List σ → Nat → Option (List σ × Nat)
  | 0, _, _ => none
  | fuel + 1, segs, k =>
    match findUnion unite segs with
    | none => some (segs, k)                                               -- l.301–302 `else: break`
    | some (i, u) =>                                                       -- l.296–298
      cleanLoopFuel unite fuel ((segs.set i u).eraseIdx ((i + 1) % segs.length)) (k + 1)

/-- `JordanCurve.clean` on the segment list: fuel = number of segments + 1 -/
def cleanLoop {σ} (unite : σ → σ → Option σ) (segs : List σ) : Option (List σ × Nat) :=
  cleanLoopFuel unite (segs.length + 1) segs 0

end ShapeVerif
