/- Bézier segments are affinely invariant, for EVERY degree: evaluation is `(Dl t)ⁿ` of the control values (Proofs/Bezier),
a linear operator, so evaluation is linear in the control values; and the Bernstein basis is a partition of unity
(`bern_const`), hence an affine map `aff a b c d e f` of the control polygon maps every point of the curve
(`evalSeg_map_aff`); `move`, `scale` and `rot` are such maps.  `derivate()` commutes with the linear part and ignores
the translation (`derivSeg_map_aff`). -/
import ShapeVerif.Proofs.Bezier
import Mathlib.Tactic.Ring

namespace ShapeVerif

theorem seq_map_lin {α : Type} (l : List α) (u v : α → Rat) (a b : Rat) :
    seq (l.map fun p => a * u p + b * v p) = a • seq (l.map u) + b • seq (l.map v) := by
  funext i
  simp only [seq, List.getD_eq_getElem?_getD, List.getElem?_map, Pi.add_apply, Pi.smul_apply, smul_eq_mul]
  cases l[i]? <;> simp

theorem evalCoord_map_lin {α : Type} (l : List α) (u v : α → Rat) (a b : Rat) (t : Rat) :
    evalCoord (l.map fun p => a * u p + b * v p) t
      = a * evalCoord (l.map u) t + b * evalCoord (l.map v) t := by
  simp only [evalCoord_eq_Dl, List.length_map, seq_map_lin, map_add, map_smul, Pi.add_apply, Pi.smul_apply, smul_eq_mul]

theorem evalCoord_map_const {α : Type} (l : List α) (hl : l ≠ []) (c : Rat) (t : Rat) :
    evalCoord (l.map fun _ => c) t = c := by
  have hpos := List.length_pos_iff.mpr hl
  rw [evalCoord_eq_bern, List.length_map]
  refine (bern_congr (g := fun _ => c) (fun i hi => ?_) t).trans (bern_const _ c t)
  rw [seq_map l _ (by omega)]

theorem bernstein_partition_of_unity (n : Nat) (t : Rat) : bernsteinCoord (List.replicate (n + 1) 1) t = 1 := by
  rw [← evalCoord_eq_bernsteinCoord, ← List.map_replicate (f := fun _ : Unit => (1 : Rat)) (a := ()),
    evalCoord_map_const _ (by simp)]

theorem evalCoord_map_add_const {α : Type} (l : List α) (hl : l ≠ []) (u : α → Rat) (c : Rat) (t : Rat) :
    evalCoord (l.map fun p => u p + c) t = evalCoord (l.map u) t + c := by
  have e : (fun p => u p + c) = fun p => 1 * u p + c * (fun _ : α => (1 : Rat)) p := by funext p; ring
  rw [e, evalCoord_map_lin, evalCoord_map_const l hl, one_mul, mul_one]

/-- `p ↦ (a x + b y + e, c x + d y + f)` -/
def aff (a b c d e f : Rat) (p : Pt) : Pt := ⟨a * p.x + b * p.y + e, c * p.x + d * p.y + f⟩

theorem move_eq_aff (v : Pt) : (fun p : Pt => p.move v) = aff 1 0 0 1 v.x v.y := by
  funext p
  simp only [Pt.move, aff, one_mul, zero_mul, add_zero, zero_add]

theorem scale_eq_aff (sx sy : Rat) : (fun p : Pt => p.scale sx sy) = aff sx 0 0 sy 0 0 := by
  funext p
  simp only [Pt.scale, aff, zero_mul, add_zero, zero_add, mul_comm sx, mul_comm sy]

theorem rot_eq_aff (c s : Rat) : (fun p : Pt => p.rot c s) = aff c (-s) s c 0 0 := by
  funext p
  simp only [Pt.rot, aff, add_zero, neg_mul, sub_eq_add_neg]

theorem evalSeg_map_aff (s : Seg) (hs : s ≠ []) (a b c d e f t : Rat) :
    evalSeg (s.map (aff a b c d e f)) t = aff a b c d e f (evalSeg s t) := by
  unfold evalSeg Seg.xs Seg.ys aff
  simp only [List.map_map]
  have ex : ((fun p : Pt => p.x) ∘ fun p : Pt => (⟨a * p.x + b * p.y + e, c * p.x + d * p.y + f⟩ : Pt))
      = fun p => (a * p.x + b * p.y) + e := rfl
  have ey : ((fun p : Pt => p.y) ∘ fun p : Pt => (⟨a * p.x + b * p.y + e, c * p.x + d * p.y + f⟩ : Pt))
      = fun p => (c * p.x + d * p.y) + f := rfl
  rw [ex, ey, evalCoord_map_add_const s hs, evalCoord_map_add_const s hs, evalCoord_map_lin, evalCoord_map_lin]

/-- without a translation part the empty control polygon (whose curve is the origin) is no exception -/
theorem evalSeg_map_lin (s : Seg) (a b c d t : Rat) :
    evalSeg (s.map (aff a b c d 0 0)) t = aff a b c d 0 0 (evalSeg s t) := by
  cases s with
  | nil => simp [evalSeg_nil, aff, Pt.zero]
  | cons p s => exact evalSeg_map_aff (p :: s) (List.cons_ne_nil p s) a b c d 0 0 t

theorem evalSeg_map_move (s : Seg) (hs : s ≠ []) (d : Pt) (t : Rat) :
    evalSeg (s.map (·.move d)) t = (evalSeg s t).move d := by
  have h := evalSeg_map_aff s hs 1 0 0 1 d.x d.y t
  rwa [← move_eq_aff] at h

theorem evalSeg_map_scale (s : Seg) (sx sy t : Rat) :
    evalSeg (s.map (·.scale sx sy)) t = (evalSeg s t).scale sx sy := by
  have h := evalSeg_map_lin s sx 0 0 sy t
  rwa [← scale_eq_aff] at h

theorem evalSeg_map_rot (s : Seg) (c sn t : Rat) :
    evalSeg (s.map (·.rot c sn)) t = (evalSeg s t).rot c sn := by
  have h := evalSeg_map_lin s c (-sn) sn c t
  rwa [← rot_eq_aff] at h

theorem derivSeg_map_aff (s : Seg) (a b c d e f : Rat) :
    derivSeg (s.map (aff a b c d e f)) = (derivSeg s).map (aff a b c d 0 0) := by
  unfold derivSeg
  rw [List.length_map]
  by_cases h : s.length ≤ 1
  · rw [if_pos h, if_pos h]
    simp [aff, Pt.zero]
  · rw [if_neg h, if_neg h, ← List.map_tail, List.zip_map, List.map_map, List.map_map]
    apply List.map_congr_left
    intro ab _
    show Pt.smul _ (Pt.sub _ _) = aff a b c d 0 0 (Pt.smul _ (Pt.sub _ _))
    simp only [Pt.smul, Pt.sub, aff, Pt.mk.injEq]
    constructor <;> ring

theorem derivSeg_map_scale (s : Seg) (sx sy : Rat) :
    derivSeg (s.map (·.scale sx sy)) = (derivSeg s).map (·.scale sx sy) := by
  rw [scale_eq_aff]; exact derivSeg_map_aff s sx 0 0 sy 0 0

theorem derivSeg_map_move (s : Seg) (d : Pt) : derivSeg (s.map (·.move d)) = derivSeg s := by
  rw [move_eq_aff, derivSeg_map_aff, ← move_eq_aff ⟨0, 0⟩]
  simp [Pt.move]

end ShapeVerif
