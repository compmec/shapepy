/- Boundary integrals `∫ x^a y^b dy` of pieces of EVERY degree under affine maps of the plane.
The area form: for `x' = a x + b y + e`, `y' = c x + d y + f` one has `x' dy' = (ad − bc) · x dy + dG` with the quadratic
potential `G = affPot a b c d e` (`aff_integrand`), so the integral over a piece changes by the determinant and by
`G end − G start`; around a closed chain the second part telescopes away (`Proofs/Chain.lean`).  Translation, axis
scaling and exact rotation are the instances `move_eq_aff`, `scale_eq_aff`, `rot_eq_aff`.
All exponents: axis scaling multiplies by `sx^a · sy^(b+1)`, a translation expands binomially, and `y^b dy` is exact. -/
import ShapeVerif.Proofs.PolyBridge
import ShapeVerif.Proofs.AffineCurve
import ShapeVerif.Proofs.Chain
import Mathlib.Tactic.Ring

open Polynomial

namespace ShapeVerif
open Geom (bdry bdry_closed)

/-! ### the area form under an affine map -/

/-- the potential of the exact differential by which `x' dy'` differs from `(ad − bc) · x dy` -/
def affPot (a b c d e : Rat) (p : Pt) : Rat :=
  a * c / 2 * p.x ^ 2 + b * c * (p.x * p.y) + b * d / 2 * p.y ^ 2 + e * c * p.x + e * d * p.y

theorem aff_integrand (P Q : Rat[X]) (a b c d e f : Rat) :
    (C a * P + C b * Q + C e) ^ 1 * (C c * P + C d * Q + C f) ^ 0 * derivative (C c * P + C d * Q + C f)
      = C (a * d - b * c) * (P ^ 1 * Q ^ 0 * derivative Q)
        + derivative (C (a * c / 2) * P ^ 2 + C (b * c) * (P * Q) + C (b * d / 2) * Q ^ 2 + C (e * c) * P
            + C (e * d) * Q) := by
  have h2 : ∀ (k : Rat) (R : Rat[X]), C (k / 2) * (C 2 * R) = C k * R := fun k R => by
    rw [← mul_assoc, ← C_mul, div_mul_cancel₀ k two_ne_zero]
  simp only [derivative_add, derivative_mul, derivative_C, derivative_pow, zero_mul, zero_add, add_zero,
    Nat.cast_ofNat, Nat.add_one_sub_one, pow_one, pow_zero, mul_one, mul_assoc, h2]
  simp only [C_sub, C_mul]
  ring

theorem exactVertical_map_aff (s : Seg) (a b c d e f : Rat) :
    exactVertical (s.map (aff a b c d e f)) 1 0
      = (a * d - b * c) * exactVertical s 1 0
        + (affPot a b c d e (s.getLastD Pt.zero) - affPot a b c d e (s.headD Pt.zero)) := by
  rcases eq_or_ne s [] with rfl | hs
  · simp [exactVertical_nil]
  rw [exactVertical_of_eval (s.map (aff a b c d e f))
      (C a * toPoly (coordPoly s.xs) + C b * toPoly (coordPoly s.ys) + C e)
      (C c * toPoly (coordPoly s.xs) + C d * toPoly (coordPoly s.ys) + C f)
      (fun t => by
        rw [evalSeg_map_aff s hs]
        simp only [aff, eval_add, eval_mul, eval_C, ← evalSeg_x_eq, ← evalSeg_y_eq])
      (fun t => by
        rw [evalSeg_map_aff s hs]
        simp only [aff, eval_add, eval_mul, eval_C, ← evalSeg_x_eq, ← evalSeg_y_eq]),
    aff_integrand, map_add, Iint_C_mul, Iint_derivative, ← exactVertical_eq_Iint]
  simp only [eval_add, eval_mul, eval_C, eval_pow, ← evalSeg_x_eq, ← evalSeg_y_eq]
  rw [evalSeg_one s, evalSeg_zero s]
  rfl

theorem jordanExactVertical_map_aff (j : Jordan) (a b c d e f : Rat) :
    jordanExactVertical (j.map (aff a b c d e f)) 1 0
      = (a * d - b * c) * jordanExactVertical j 1 0 + bdry (affPot a b c d e) j := by
  simp only [Jordan.map, jordanExactVertical, bdry, List.map_map, Function.comp_def, exactVertical_map_aff,
    List.sum_map_add, List.sum_map_mul_left]

theorem exactVertical_map_scale (s : Seg) (sx sy : Rat) (a b : Nat) :
    exactVertical (s.map (·.scale sx sy)) a b = sx ^ a * sy ^ (b + 1) * exactVertical s a b := by
  rw [exactVertical_of_eval (s.map (·.scale sx sy)) (C sx * toPoly (coordPoly s.xs)) (C sy * toPoly (coordPoly s.ys))
      (fun t => by rw [evalSeg_map_scale, eval_mul, eval_C, ← evalSeg_x_eq]; exact mul_comm _ _)
      (fun t => by rw [evalSeg_map_scale, eval_mul, eval_C, ← evalSeg_y_eq]; exact mul_comm _ _) a b,
    exactVertical_eq_Iint, derivative_C_mul, mul_pow, mul_pow, ← C_pow, ← C_pow]
  -- scalars are pulled out as `•` before `ring`: `ring` in `ℚ[X]` is slow to check
  simp only [← smul_eq_C_mul, smul_mul_assoc, mul_smul_comm, map_smul, smul_eq_mul]
  ring

/-- `y^b dy` is an exact differential: its integral over a piece depends on the end points only -/
theorem exactVertical_y_pow (s : Seg) (b : Nat) :
    exactVertical s 0 b
      = ((s.getLastD Pt.zero).y ^ (b + 1) - (s.headD Pt.zero).y ^ (b + 1)) / ((b + 1 : Nat) : Rat) := by
  have hb : (((b + 1 : Nat) : Rat)) ≠ 0 := Nat.cast_ne_zero.mpr (Nat.succ_ne_zero b)
  have e : (1 : Rat[X]) * toPoly (coordPoly s.ys) ^ b * derivative (toPoly (coordPoly s.ys))
      = C (1 / ((b + 1 : Nat) : Rat)) * derivative (toPoly (coordPoly s.ys) ^ (b + 1)) := by
    rw [derivative_pow, Nat.add_sub_cancel, ← mul_assoc, ← mul_assoc, ← C_mul, one_div_mul_cancel hb, C_1]
  rw [exactVertical_eq_Iint, pow_zero, e, Iint_C_mul, Iint_derivative, eval_pow, eval_pow, ← evalSeg_y_eq,
    ← evalSeg_y_eq, evalSeg_one s, evalSeg_zero s]
  ring

/-- hence `∮ y^b dy = 0` around a chain whose junctions agree in their ORDINATES -/
theorem jordanExactVertical_y_pow_closed (j : Jordan)
    (hchain : ∀ p ∈ j.zip (j.tail ++ j.take 1), (p.1.getLastD Pt.zero).y = (p.2.headD Pt.zero).y) (b : Nat) :
    jordanExactVertical j 0 b = 0 := by
  rw [← bdry_closed (fun p : Pt => p.y ^ (b + 1) / ((b + 1 : Nat) : Rat)) j fun ab hab => by simp only [hchain ab hab]]
  exact congrArg List.sum (List.map_congr_left fun s _ => by rw [exactVertical_y_pow, sub_div])

/-- translation: the binomial expansion of `(x + d.x)^a (y + d.y)^b dy` -/
theorem exactVertical_map_move (s : Seg) (d : Pt) (a b : Nat) :
    exactVertical (s.map (·.move d)) a b
      = ∑ i ∈ Finset.range (a + 1), ∑ k ∈ Finset.range (b + 1),
          ((a.choose i : Rat) * d.x ^ (a - i)) * ((b.choose k : Rat) * d.y ^ (b - k)) * exactVertical s i k := by
  rcases eq_or_ne s [] with rfl | hs
  · simp [exactVertical_nil]
  rw [exactVertical_of_eval (s.map (·.move d)) (toPoly (coordPoly s.xs) + C d.x) (toPoly (coordPoly s.ys) + C d.y)
      (fun t => by rw [evalSeg_map_move s hs, eval_add, eval_C, ← evalSeg_x_eq]; rfl)
      (fun t => by rw [evalSeg_map_move s hs, eval_add, eval_C, ← evalSeg_y_eq]; rfl),
    derivative_add, derivative_C, add_zero, add_pow, add_pow, Finset.sum_mul_sum, Finset.sum_mul, map_sum]
  refine Finset.sum_congr rfl fun i _ => ?_
  rw [Finset.sum_mul, map_sum]
  refine Finset.sum_congr rfl fun k _ => ?_
  rw [exactVertical_eq_Iint, ← Iint_C_mul]
  refine congrArg Iint ?_
  simp only [C_mul, C_pow, C_eq_natCast]
  ring

theorem jordanExactVertical_map_move (j : Jordan) (d : Pt) (a b : Nat) :
    jordanExactVertical (j.map (·.move d)) a b
      = ∑ i ∈ Finset.range (a + 1), ∑ k ∈ Finset.range (b + 1),
          ((a.choose i : Rat) * d.x ^ (a - i)) * ((b.choose k : Rat) * d.y ^ (b - k)) * jordanExactVertical j i k := by
  -- the sum over the pieces and the finite sums commute: `Multiset.sum_map_sum`
  simp only [Jordan.map, jordanExactVertical, List.map_map, Function.comp_def, exactVertical_map_move,
    ← Multiset.sum_coe, ← Multiset.map_coe, Multiset.sum_map_sum, Multiset.sum_map_mul_left]

/-! ### chains -/

theorem jordanExactVertical_map_scale (j : Jordan) (sx sy : Rat) (a b : Nat) :
    jordanExactVertical (j.map (·.scale sx sy)) a b = sx ^ a * sy ^ (b + 1) * jordanExactVertical j a b := by
  simp only [Jordan.map, jordanExactVertical, List.map_map, Function.comp_def, exactVertical_map_scale,
    List.sum_map_mul_left]

theorem Jordan.area_map_scale (j : Jordan) (sx sy : Rat) : Jordan.area (j.map (·.scale sx sy)) = sx * sy * Jordan.area j := by
  unfold Jordan.area
  rw [jordanExactVertical_map_scale, pow_one, pow_one]

/-- the instance `(1, 0)` of the expansion: `∫ (x + d.x) dy = ∫ x dy + d.x ∫ dy` over a piece, hence over a chain -/
theorem exactVertical_map_move_10 (s : Seg) (d : Pt) :
    exactVertical (s.map (·.move d)) 1 0 = exactVertical s 1 0 + d.x * exactVertical s 0 0 := by
  rw [exactVertical_map_move]
  simp only [Finset.sum_range_succ, Finset.sum_range_zero]
  simp
  ring

theorem Jordan.area_map_move (j : Jordan) (d : Pt) :
    Jordan.area (j.map (·.move d)) = Jordan.area j + d.x * jordanExactVertical j 0 0 := by
  simp only [Jordan.area, Jordan.map, jordanExactVertical, List.map_map, Function.comp_def, exactVertical_map_move_10,
    List.sum_map_add, List.sum_map_mul_left]

theorem Jordan.area_map_move_closed (j : Jordan)
    (hchain : ∀ p ∈ j.zip (j.tail ++ j.take 1), (p.1.getLastD Pt.zero).y = (p.2.headD Pt.zero).y) (d : Pt) :
    Jordan.area (j.map (·.move d)) = Jordan.area j := by
  rw [Jordan.area_map_move, jordanExactVertical_y_pow_closed j hchain, mul_zero, add_zero]

/-- the area of a rotated chain: the potential telescopes around a closed chain -/
theorem Jordan.area_map_rot (j : Jordan) (hc : Geom.ExactClosed j) (c sn : Rat) :
    Jordan.area (j.map (·.rot c sn)) = (c * c + sn * sn) * Jordan.area j := by
  unfold Jordan.area
  rw [rot_eq_aff, jordanExactVertical_map_aff, Geom.bdry_exactClosed _ j hc]
  ring

/-- the first moments of a translated chain whose junctions agree in their ordinates: `∮ dy` and `∮ y dy` drop out of
the binomial expansion -/
theorem Jordan.moment_10_map_move (j : Jordan)
    (hchain : ∀ p ∈ j.zip (j.tail ++ j.take 1), (p.1.getLastD Pt.zero).y = (p.2.headD Pt.zero).y) (d : Pt) :
    Jordan.moment (j.map (·.move d)) 1 0 = Jordan.moment j 1 0 + d.x * Jordan.area j := by
  unfold Jordan.moment Jordan.area
  rw [jordanExactVertical_map_move]
  simp only [Finset.sum_range_succ, Finset.sum_range_zero, jordanExactVertical_y_pow_closed j hchain]
  simp
  ring

theorem Jordan.moment_01_map_move (j : Jordan)
    (hchain : ∀ p ∈ j.zip (j.tail ++ j.take 1), (p.1.getLastD Pt.zero).y = (p.2.headD Pt.zero).y) (d : Pt) :
    Jordan.moment (j.map (·.move d)) 0 1 = Jordan.moment j 0 1 + d.y * Jordan.area j := by
  unfold Jordan.moment Jordan.area
  rw [jordanExactVertical_map_move]
  simp only [Finset.sum_range_succ, Finset.sum_range_zero, jordanExactVertical_y_pow_closed j hchain]
  simp
  ring

end ShapeVerif
