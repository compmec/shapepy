/-
What the observables of a shape — membership of a point (`Shape.mem`, `Shape.memW`), crossing number, moments — do under
the operations that only rearrange curves: `all` / `any` / sums over lists do not see the order of the list, so sorting
constructors (`connectedNew`, `disjointNew`) and permuted arguments leave them alone; reversing every edge negates the
crossing number (`wind_invert`).  The two memberships are instances of `C03.memAt reg`, membership of one fixed point
given the answer `reg` of every curve, and are treated once in that form.
Also here: when a report line of `wfProblems` is absent (`report_nil_iff`).
-/
import ShapeVerif.Proofs.Geom
import ShapeVerif.Proofs.Moments
import ShapeVerif.Proofs.Sort
import ShapeVerif.Model.Compose
import Mathlib.Tactic.Ring
import Mathlib.Data.List.Perm.Basic
import Mathlib.Algebra.BigOperators.Group.List.Basic

namespace ShapeVerif.C03

/-- membership of one fixed point, given the membership `reg J` of that point in the region of every simple curve -/
def memAt (reg : Jordan → Bool) : Shape → Bool
  | .empty => false
  | .whole => true
  | .simple j => reg j
  | .connected js => js.all reg
  | .disjoint cs => cs.any fun c => c.all reg

/-- the code's membership with its boundary flag is `memAt` of the per-curve rule -/
theorem mem_eq_memAt (S : Shape) (r : Pt) (b : Bool) : S.mem r b = memAt (fun j => memJ j r b) S := rfl

/-- the model's winding-number membership is `memAt` of the per-curve memberships -/
theorem memW_eq_memAt (S : Shape) (r : Pt) : S.memW r = memAt (fun j => ShapeVerif.memW j r) S := rfl

end ShapeVerif.C03

namespace ShapeVerif.Alg
open ShapeVerif ShapeVerif.Geom ShapeVerif.C03

theorem wind_nil (r : Pt) : wind [] r = 0 := Geom.wind_nil r

theorem wind_perm {l1 l2 : List Edge} (h : l1.Perm l2) (r : Pt) : wind l1 r = wind l2 r := by
  rw [wind_eq, wind_eq]
  exact (h.map _).sum_eq

theorem wind_reverse (es : List Edge) (r : Pt) : wind es.reverse r = wind es r :=
  wind_perm (List.reverse_perm es) r

/-- the edge travelled the other way -/
def rev (e : Edge) : Edge := ⟨e.q, e.p⟩

theorem wind_map_rev (es : List Edge) (r : Pt) : wind (es.map rev) r = - wind es r := by
  rw [wind_eq, wind_eq, List.sum_neg, List.map_map, List.map_map]
  exact congrArg List.sum (List.map_congr_left fun e _ => Geom.contrib_rev e.p e.q r)

theorem chord_reverse (s : Seg) : Seg.chord s.reverse = rev (Seg.chord s) := by
  cases s with
  | nil => rfl
  | cons a t => simp [Seg.chord, rev, List.getLastD_eq_getLast?, List.headD_eq_head?_getD, List.getLast?_cons]

theorem edges_invert (j : Jordan) : j.invert.edges = (j.edges.map rev).reverse := by
  simp only [Jordan.invert, Jordan.edges, List.map_reverse, List.map_map]
  congr 1
  apply List.map_congr_left
  intro s _
  exact chord_reverse s

/-- holds for every curve (for a non-polygon `edges` are the chords of the segments) -/
theorem wind_invert (j : Jordan) (r : Pt) : wind j.invert.edges r = - wind j.edges r := by
  rw [edges_invert, wind_reverse, wind_map_rev]

theorem invert_invert (j : Jordan) : j.invert.invert = j := by
  unfold Jordan.invert
  rw [List.map_reverse, List.reverse_reverse, List.map_map]
  have : (List.reverse ∘ List.reverse : Seg → Seg) = id := by funext s; simp
  rw [this, List.map_id]

theorem rect_ccw (x0 y0 x1 y1 : Rat) (hx : x0 < x1) (hy : y0 < y1) : (rect x0 y0 x1 y1).ccw = true := by
  have ha : (rect x0 y0 x1 y1).area = (x1 - x0) * (y1 - y0) := by
    rw [rect, area_fromVertices4]
    dsimp only
    ring
  rw [Jordan.ccw, ha, decide_eq_true_eq]
  exact mul_pos (sub_pos.mpr hx) (sub_pos.mpr hy)

/-- the region of the rectangle at EVERY point of the plane: the half-open column above the bottom side, up to and including
the top side -/
theorem memW_rect (x0 y0 x1 y1 : Rat) (hx : x0 < x1) (hy : y0 < y1) (r : Pt) :
    memW (rect x0 y0 x1 y1) r = decide ((x0 ≤ r.x ∧ r.x < x1) ∧ y0 < r.y ∧ ¬ y1 < r.y) := by
  unfold memW
  rw [rect_ccw x0 y0 x1 y1 hx hy, if_pos rfl, Geom.rect_wind, Geom.ind_sub_ind hx.le]
  by_cases hin : x0 ≤ r.x ∧ r.x < x1
  · by_cases h0 : y0 < r.y <;> by_cases h1 : y1 < r.y <;> simp [hin, h0, h1]
  · simp [hin]

theorem report_nil_iff {c : Prop} [Decidable c] (m : String) : (if c then [] else [m]) = [] ↔ c := by
  by_cases h : c <;> simp [h]

theorem report_nil_iff' {c : Prop} [Decidable c] (m : String) : (if c then [m] else []) = [] ↔ ¬ c := by
  by_cases h : c <;> simp [h]

theorem append_eq_nil' {α} {a b : List α} (h : a ++ b = []) : a = [] ∧ b = [] := List.append_eq_nil_iff.mp h


theorem shapeExactMoment_perm {l1 l2 : List Jordan} (h : l1.Perm l2) (a b : Nat) :
    shapeExactMoment l1 a b = shapeExactMoment l2 a b := by
  rw [shapeExactMoment_eq_sum, shapeExactMoment_eq_sum, (h.map _).sum_eq]

theorem memAt_connectedNew (reg : Jordan → Bool) (js : List Jordan) : memAt reg (connectedNew js) = js.all reg :=
  (sortBy_perm _ js).all_eq

theorem connectedNew_moment (js : List Jordan) (a b : Nat) :
    (connectedNew js).moment a b = shapeExactMoment js a b :=
  shapeExactMoment_perm (sortBy_perm _ js) a b

/-- the entries that survive the removal of `EmptyShape()` -/
def nonEmpty (cs : List Shape) : List Shape := cs.filter (fun s => !s.isEmptyS)

theorem disjointNew_nil : disjointNew [] = .empty := rfl

theorem disjointNew_cons_empty (cs : List Shape) : disjointNew (.empty :: cs) = disjointNew cs := rfl

theorem disjointNew_single (s : Shape) (h : s.isComp = true) : disjointNew [s] = s := by
  cases s <;> first | rfl | cases h

theorem memAt_compOf (reg : Jordan → Bool) (s : Shape) (h : s.isComp = true) : s.compOf.all reg = memAt reg s := by
  cases s <;> simp_all [Shape.isComp, Shape.compOf, memAt]

theorem moment_compOf (s : Shape) (h : s.isComp = true) (a b : Nat) :
    shapeExactMoment s.compOf a b = s.moment a b := by
  cases s <;> simp_all [Shape.isComp, Shape.compOf, Shape.moment, Shape.jordans]

/-- what `DisjointShape.__new__` makes of the surviving entries -/
def collapse : List Shape → Shape
  | [] => .empty
  | [s] => s
  | a :: b :: t => .disjoint (sortBy compLt ((a :: b :: t).map Shape.compOf))

/-- `disjointNew` in one equation: are the surviving entries valid, then how many are they -/
theorem disjointNew_eq_ite (cs : List Shape) :
    disjointNew cs = if (nonEmpty cs).all Shape.isComp then collapse (nonEmpty cs) else .empty := by
  unfold nonEmpty disjointNew
  generalize cs.filter (fun s => !s.isEmptyS) = l
  match l with
  | [] => rfl
  | [s] => simp [collapse]
  | a :: b :: t => rfl

theorem disjointNew_valid (cs : List Shape) (hv : ∀ s ∈ nonEmpty cs, s.isComp = true) :
    disjointNew cs = collapse (nonEmpty cs) := by
  rw [disjointNew_eq_ite, if_pos (List.all_eq_true.mpr hv)]

theorem nonEmpty_eq_nil {cs : List Shape} (h : ∀ s ∈ cs, s.isEmptyS = true) : nonEmpty cs = [] :=
  List.filter_eq_nil_iff.mpr fun s hs => by simp [h s hs]

theorem disjointNew_all_empty (cs : List Shape) (h : ∀ s ∈ cs, s = .empty) : disjointNew cs = .empty := by
  rw [disjointNew_eq_ite, nonEmpty_eq_nil fun s hs => by rw [h s hs]; rfl]
  rfl

/-- empty entries answer `false`: `any` may be taken over all entries -/
theorem any_nonEmpty (reg : Jordan → Bool) (cs : List Shape) : (nonEmpty cs).any (memAt reg) = cs.any (memAt reg) :=
  List.any_filter.trans (List.any_congr rfl fun s => by cases s <;> rfl)

theorem memAt_disjointNew (reg : Jordan → Bool) (cs : List Shape) (hv : ∀ s ∈ nonEmpty cs, s.isComp = true) :
    memAt reg (disjointNew cs) = cs.any (memAt reg) := by
  rw [disjointNew_valid cs hv, ← any_nonEmpty]
  match nonEmpty cs, hv with
  | [], _ => rfl
  | [s], _ => exact (Bool.or_false _).symm
  | a :: b :: t, hv =>
    show (sortBy compLt _).any _ = _
    rw [(sortBy_perm _ _).any_eq, List.any_map]
    refine Bool.eq_iff_iff.mpr ?_
    simp only [List.any_eq_true]
    exact exists_congr fun s => and_congr_right fun hs => by rw [Function.comp, memAt_compOf reg s (hv s hs)]

theorem disjoint_moment (cs : List (List Jordan)) (a b : Nat) :
    (Shape.disjoint cs).moment a b = (cs.map fun c => (Shape.connected c).moment a b).sum := by
  simp only [Shape.moment, Shape.jordans, shapeExactMoment_eq_sum, List.map_flatten, List.sum_flatten, List.map_map,
    Function.comp_def]

theorem moment_of_isEmptyS {s : Shape} (h : s.isEmptyS = true) (a b : Nat) : s.moment a b = 0 := by
  cases s <;> first | exact shapeExactMoment_nil a b | cases h

/-- empty entries contribute nothing to the moment: the sum may be taken over all entries -/
theorem moment_sum_nonEmpty (cs : List Shape) (a b : Nat) :
    ((nonEmpty cs).map fun s => s.moment a b).sum = (cs.map fun s => s.moment a b).sum := by
  induction cs with
  | nil => rfl
  | cons s t ih =>
    rw [List.map_cons, List.sum_cons, ← ih]
    cases h : s.isEmptyS
    · rw [nonEmpty, List.filter_cons_of_pos (by rw [h]; rfl), List.map_cons, List.sum_cons]
      rfl
    · rw [nonEmpty, List.filter_cons_of_neg (by rw [h]; decide), moment_of_isEmptyS h, zero_add]
      rfl

theorem disjointNew_moment (cs : List Shape) (hv : ∀ s ∈ nonEmpty cs, s.isComp = true) (a b : Nat) :
    (disjointNew cs).moment a b = (cs.map fun s => s.moment a b).sum := by
  rw [disjointNew_valid cs hv, ← moment_sum_nonEmpty]
  match nonEmpty cs, hv with
  | [], _ => simp [collapse, Shape.moment, Shape.jordans, shapeExactMoment_nil]
  | [s], _ => simp [collapse]
  | s :: s' :: t, hv =>
    rw [collapse, disjoint_moment]
    show ((sortBy compLt _).map fun c => shapeExactMoment c a b).sum = _
    rw [((sortBy_perm compLt _).map _).sum_eq, List.map_map]
    exact congrArg List.sum (List.map_congr_left fun s hs => moment_compOf s (hv s hs) a b)

theorem disjointNew_invalid (cs : List Shape) (h : ¬ ∀ s ∈ nonEmpty cs, s.isComp = true) :
    disjointNew cs = .empty := by
  rw [disjointNew_eq_ite, if_neg fun hall => h (List.all_eq_true.mp hall)]

theorem valid_perm {cs cs' : List Shape} (h : cs.Perm cs') :
    (∀ s ∈ nonEmpty cs, s.isComp = true) ↔ (∀ s ∈ nonEmpty cs', s.isComp = true) := by
  have hp : (nonEmpty cs).Perm (nonEmpty cs') := h.filter _
  exact ⟨fun hv s hs => hv s (hp.mem_iff.mpr hs), fun hv s hs => hv s (hp.mem_iff.mp hs)⟩

end ShapeVerif.Alg
