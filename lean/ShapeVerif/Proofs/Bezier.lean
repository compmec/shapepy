/- The Bézier segment calculus for EVERY degree, from one binomial theorem.
A control polygon is read as a sequence `seq cs : Nat → Rat`.  On sequences the shift `E`, the de Casteljau step
`Dl t = (1 - t) + t E` and the difference `E - 1` are linear operators, and the binomial theorem for an operator and a
scalar (`add_pow_apply`) gives in turn: the Bernstein sum `bern` is `(Dl t)ⁿ` at 0; the code's power-basis coefficients
are `C(n,k) (E - 1)ᵏ c₀` (`coordPoly_eq`), hence `evalCoord = (Dl t)ⁿ` (`evalCoord_eq_Dl`); and the left half of a split
(`Dl_left`).  The right half is the left half of the reversed polygon at `1 - t` (`splitAt_snd`), and reversing a
polygon reparametrises by `t ↦ 1 - t`.  The value by de Casteljau is the last point of the left half.  At the end: the
Bernstein weights are nonnegative and sum to 1, so the curve stays in every box that holds its control points
(`evalSeg_contains`).  `derivate()` is in Proofs/Deriv.lean. -/
import ShapeVerif.Proofs.ListPoly
import ShapeVerif.Proofs.Box
import Mathlib.Data.Nat.Choose.Sum
import Mathlib.Algebra.Module.LinearMap.End
import Mathlib.Algebra.Algebra.Basic
import Mathlib.Algebra.BigOperators.Group.Finset.Basic
import Mathlib.Tactic.Ring
import Mathlib.Tactic.NormNum
import Mathlib.Algebra.BigOperators.Pi

namespace ShapeVerif
open Finset

/-- the product loop of `Math.comb` computes `(n-i+1).ascFactorial i`, the division loop divides by `i!`, and
`ascFactorial = i! · choose` -/
theorem comb_eq_choose (n i : Nat) (h : i ≤ n) : comb n i = Nat.choose n i := by
  have num : ∀ a i : Nat, (List.range i).foldl (fun v k => v * (a + k)) 1 = a.ascFactorial i := by
    intro a i
    induction i with
    | zero => simp
    | succ i ih => simp [List.range_succ, ih, Nat.ascFactorial_succ, Nat.mul_comm]
  have div : ∀ a m : Nat, (List.range m).foldl (fun v k => v / (k + 2)) a = a / (m + 1).factorial := by
    intro a m
    induction m with
    | zero => simp
    | succ m ih =>
      simp only [List.range_succ, List.foldl_append, ih, List.foldl_cons, List.foldl_nil]
      rw [Nat.div_div_eq_div_mul, Nat.factorial_succ (m + 1), Nat.mul_comm]
  obtain ⟨d, rfl⟩ := Nat.exists_eq_add_of_le' h
  simp only [comb, Nat.add_sub_cancel, num, div]
  rw [Nat.ascFactorial_eq_factorial_mul_choose d i, Nat.add_comm d i]
  cases i with
  | zero => simp
  | succ i => exact Nat.mul_div_cancel_left _ (Nat.factorial_pos _)

theorem zipIdx_sum_eq (f : Rat × Nat → Rat) (cs : List Rat) (k : Nat) :
    ((cs.zipIdx k).map f).sum = ∑ i ∈ range cs.length, f (cs.getD i 0, k + i) := by
  induction cs generalizing k with
  | nil => simp
  | cons c cs ih =>
    rw [List.zipIdx_cons, List.map_cons, List.sum_cons, ih, List.length_cons, sum_range_succ']
    simp only [List.getD_cons_succ, List.getD_cons_zero, Nat.add_zero]
    rw [add_comm]
    congr 1
    apply sum_congr rfl
    intro i _
    congr 2
    omega

/-- the control values as a sequence (zero beyond the list) -/
def seq (cs : List Rat) : Nat → Rat := fun i => cs.getD i 0

/-- a sum over the control values with their indices, padded with zero terms -/
theorem zipIdx_sum_seq (f : Rat → Nat → Rat) (hf : ∀ i, f 0 i = 0) (cs : List Rat) {m : Nat} (hm : cs.length ≤ m) :
    (cs.zipIdx.map fun p => f p.1 p.2).sum = ∑ i ∈ range m, f (seq cs i) i := by
  rw [zipIdx_sum_eq, ← sum_subset (range_subset_range.mpr hm)]
  · simp only [Nat.zero_add, seq]
  · intro i _ hi
    rw [seq, List.getD_eq_getElem?_getD, List.getElem?_eq_none (by simpa using hi), Option.getD_none, hf]

theorem seq_map {α : Type} (l : List α) (c : α → Rat) {i : Nat} (hi : i < l.length) : seq (l.map c) i = c l[i] := by
  rw [seq, List.getD_eq_getElem?_getD, List.getElem?_map, List.getElem?_eq_getElem hi]; rfl

def shiftE : Module.End Rat (Nat → Rat) where
  toFun f := fun i => f (i + 1)
  map_add' _ _ := rfl
  map_smul' _ _ := rfl

theorem shiftE_apply (f : Nat → Rat) (j : Nat) : shiftE f j = f (j + 1) := rfl

theorem shiftE_pow_apply (m : Nat) (f : Nat → Rat) (j : Nat) : (shiftE ^ m) f j = f (j + m) := by
  induction m generalizing j with
  | zero => simp
  | succ m ih => rw [pow_succ', Module.End.mul_apply, shiftE_apply, ih, Nat.add_right_comm, Nat.add_assoc]

/-- the binomial theorem for an operator `B` that acts as `u A + v`, pointwise -/
theorem add_pow_apply {A B : Module.End Rat (Nat → Rat)} {u v : Rat} (h : ∀ f j, B f j = u * A f j + v * f j)
    (n : Nat) (f : Nat → Rat) (j : Nat) :
    (B ^ n) f j = ∑ m ∈ range (n + 1), (n.choose m : Rat) * u ^ m * v ^ (n - m) * (A ^ m) f j := by
  have e : B = u • A + v • 1 := LinearMap.ext fun f => funext fun j => h f j
  rw [e, (((Commute.one_right A).smul_right v).smul_left u).add_pow]
  simp only [smul_pow, one_pow, LinearMap.sum_apply, Finset.sum_apply, Module.End.mul_apply, LinearMap.smul_apply,
    Pi.smul_apply, smul_eq_mul, ← Nat.cast_smul_eq_nsmul Rat, Module.End.natCast_apply, Module.End.one_apply, map_smul]
  exact sum_congr rfl fun i _ => by ring

/-- one de Casteljau step on sequences -/
def Dl (t : Rat) : Module.End Rat (Nat → Rat) := (1 - t) • 1 + t • shiftE

theorem Dl_apply (t : Rat) (f : Nat → Rat) (j : Nat) : Dl t f j = (1 - t) * f j + t * f (j + 1) := rfl

/-- the Bernstein sum of a sequence -/
def bern (n : Nat) (f : Nat → Rat) (t : Rat) : Rat :=
  ∑ i ∈ range (n + 1), (n.choose i : Rat) * t ^ i * (1 - t) ^ (n - i) * f i

theorem bern_congr {n : Nat} {f g : Nat → Rat} (h : ∀ i ≤ n, f i = g i) (t : Rat) : bern n f t = bern n g t :=
  sum_congr rfl fun i hi => by rw [h i (Nat.lt_succ_iff.mp (mem_range.mp hi))]

theorem Dl_pow_apply (t : Rat) (n : Nat) (f : Nat → Rat) (j : Nat) :
    ((Dl t) ^ n) f j = bern n (fun i => f (j + i)) t := by
  rw [add_pow_apply (A := shiftE) (u := t) (v := 1 - t) fun f j => by rw [Dl_apply, shiftE_apply, add_comm]]
  simp only [shiftE_pow_apply, bern]

/-- `(Dl t)ᵏ` at 0 reads only the first `k + 1` values -/
theorem Dl_pow_congr {t : Rat} {k : Nat} {f g : Nat → Rat} (h : ∀ i ≤ k, f i = g i) :
    ((Dl t) ^ k) f 0 = ((Dl t) ^ k) g 0 := by
  rw [Dl_pow_apply, Dl_pow_apply]
  exact bern_congr (fun i hi => by rw [Nat.zero_add, h i hi]) t

/-- the Bernstein basis is a partition of unity: the weights are the terms of `(t + (1 - t))ⁿ` -/
theorem bern_const (n : Nat) (c t : Rat) : bern n (fun _ => c) t = c := by
  have h : bern n (fun _ => c) t = (t + (1 - t)) ^ n * c := by
    rw [add_pow, sum_mul]
    exact sum_congr rfl fun i _ => by ring
  rw [h, add_sub_cancel, one_pow, one_mul]

theorem diff_apply (f : Nat → Rat) (j : Nat) : (shiftE - 1) f j = f (j + 1) - f j := rfl

theorem diff_pow_apply (k : Nat) (f : Nat → Rat) (j : Nat) :
    ((shiftE - 1) ^ k) f j = ∑ i ∈ range (k + 1), (k.choose i : Rat) * (-1) ^ (k - i) * f (j + i) := by
  rw [add_pow_apply (A := shiftE) (u := 1) (v := -1) fun f j => by rw [diff_apply, shiftE_apply]; ring]
  simp only [shiftE_pow_apply, one_pow, mul_one]

/-- a difference at 0 reads only the first `k + 1` values -/
theorem diff_pow_congr {k : Nat} {f g : Nat → Rat} (h : ∀ i ≤ k, f i = g i) :
    ((shiftE - 1) ^ k) f 0 = ((shiftE - 1) ^ k) g 0 := by
  rw [diff_pow_apply, diff_pow_apply]
  exact sum_congr rfl fun i hi => by rw [Nat.zero_add, h i (Nat.lt_succ_iff.mp (mem_range.mp hi))]

/-- Bernstein combination of the de Casteljau values of the initial sub-polygons -/
theorem Dl_left (t0 u : Rat) (n : Nat) (f : Nat → Rat) :
    bern n (fun k => ((Dl t0) ^ k) f 0) u = ((Dl (t0 * u)) ^ n) f 0 :=
  (add_pow_apply (A := Dl t0) (u := u) (v := 1 - u) (fun f j => by simp only [Dl_apply]; ring) n f 0).symm

/-- the sign rule of the basis matrix is a power of `-1` -/
theorem ite_odd_neg (m : Nat) (v : Int) : (if m % 2 = 1 then -v else v) = (-1) ^ m * v := by
  rcases Nat.even_or_odd m with h | h
  · rw [if_neg (by rw [Nat.even_iff.mp h]; decide), h.neg_one_pow, one_mul]
  · rw [if_pos (Nat.odd_iff.mp h), h.neg_one_pow, neg_one_mul]

/-- column `n - k` of the basis matrix: `(-1)^(k-i) C(n,k) C(k,i)` (zero for `k < i`) -/
theorem caractEntry_sub (n i k : Nat) (hi : i ≤ n) (hk : k ≤ n) :
    (caractEntry n i (n - k) : Rat) = (-1) ^ (k - i) * (n.choose k : Rat) * (k.choose i : Rat) := by
  -- with `n = k + m` and, for `i ≤ k`, `k = i + e`, no subtraction is left
  obtain ⟨m, rfl⟩ := Nat.exists_eq_add_of_le hk
  rw [Nat.add_sub_cancel_left, caractEntry]
  by_cases hik : i ≤ k
  · obtain ⟨e, rfl⟩ := Nat.exists_eq_add_of_le hik
    have hp : (-1 : Rat) ^ (i + e + m + i + m) = (-1) ^ e := by
      rw [show i + e + m + i + m = e + 2 * (m + i) by ring, pow_add, pow_mul, neg_one_sq, one_pow, mul_one]
    have hc : (i + e + m).choose i * (e + m).choose m = (i + e + m).choose (i + e) * (i + e).choose i := by
      rw [Nat.choose_mul (Nat.le_add_right i e), Nat.add_assoc, Nat.add_sub_cancel_left, Nat.add_sub_cancel_left,
        Nat.choose_symm_add (a := e)]
    have hd : i + e + m - i = e + m := by rw [Nat.add_assoc, Nat.add_sub_cancel_left]
    rw [hd, if_pos (Nat.le_add_left m e), ite_odd_neg, comb_eq_choose _ i hi, comb_eq_choose _ m (Nat.le_add_left m e),
      hc, Nat.add_sub_cancel_left]
    push_cast
    rw [hp, mul_assoc]
  · rw [if_neg (by omega), Nat.choose_eq_zero_of_lt (Nat.lt_of_not_le hik), Int.cast_zero, Nat.cast_zero, mul_zero]

theorem canonCoef_sub (cs : List Rat) (n k : Nat) (hn : cs.length ≤ n + 1) (hk : k ≤ n) :
    canonCoef cs n (n - k) = (n.choose k : Rat) * ((shiftE - 1) ^ k) (seq cs) 0 := by
  rw [canonCoef, zipIdx_sum_seq (fun c i => c * (caractEntry n i (n - k) : Rat)) (fun _ => zero_mul _) cs hn,
    diff_pow_apply, mul_sum, ← sum_subset (range_subset_range.mpr (Nat.succ_le_succ hk))]
  · refine sum_congr rfl fun i hi => ?_
    rw [caractEntry_sub n i k ((Nat.lt_succ_iff.mp (mem_range.mp hi)).trans hk) hk, Nat.zero_add]
    ring
  · intro i hi hik
    rw [caractEntry_sub n i k (Nat.lt_succ_iff.mp (mem_range.mp hi)) hk,
      Nat.choose_eq_zero_of_lt (Nat.lt_of_succ_le (Nat.le_of_not_lt (mt mem_range.mpr hik))), Nat.cast_zero, mul_zero,
      mul_zero]

theorem coordPoly_eq (cs : List Rat) :
    coordPoly cs = (List.range (cs.length - 1 + 1)).map fun k =>
      ((cs.length - 1).choose k : Rat) * ((shiftE - 1) ^ k) (seq cs) 0 := by
  rw [coordPoly, canonCoefs, ← List.map_reverse, List.range_eq_range', List.reverse_range', ← List.range_eq_range',
    List.map_map]
  refine List.map_congr_left fun k hk => ?_
  rw [Function.comp, Nat.zero_add, Nat.add_sub_cancel,
    canonCoef_sub cs _ k le_tsub_add (Nat.lt_succ_iff.mp (List.mem_range.mp hk))]

theorem peval_coordPoly (cs : List Rat) (t : Rat) : peval (coordPoly cs) t = evalCoord cs t := by
  unfold coordPoly evalCoord horner peval
  rw [List.foldr_reverse]
  congr 1; funext v c; ring

theorem evalCoord_eq_Dl (cs : List Rat) (t : Rat) : evalCoord cs t = ((Dl t) ^ (cs.length - 1)) (seq cs) 0 := by
  rw [← peval_coordPoly, coordPoly_eq, peval_map_range,
    add_pow_apply (A := shiftE - 1) (u := t) (v := 1) fun f j => by rw [Dl_apply, diff_apply]; ring]
  simp only [one_pow, mul_one]
  exact sum_congr rfl fun k _ => by ring

theorem bernsteinCoord_eq_bern (cs : List Rat) (t : Rat) : bernsteinCoord cs t = bern (cs.length - 1) (seq cs) t := by
  rw [bernsteinCoord, zipIdx_sum_seq
    (fun c i => ((comb (cs.length - 1) i : Nat) : Rat) * t ^ i * (1 - t) ^ (cs.length - 1 - i) * c)
    (fun _ => mul_zero _) cs (by omega : cs.length ≤ cs.length - 1 + 1)]
  exact sum_congr rfl fun i hi => by rw [comb_eq_choose _ i (Nat.lt_succ_iff.mp (mem_range.mp hi))]

theorem evalCoord_eq_bern (cs : List Rat) (t : Rat) : evalCoord cs t = bern (cs.length - 1) (seq cs) t := by
  rw [evalCoord_eq_Dl, Dl_pow_apply]; simp only [Nat.zero_add]

theorem evalCoord_eq_bernsteinCoord (cs : List Rat) (t : Rat) : evalCoord cs t = bernsteinCoord cs t := by
  rw [evalCoord_eq_bern, bernsteinCoord_eq_bern]

theorem evalSeg_eq_bernsteinSeg (s : Seg) (t : Rat) : evalSeg s t = bernsteinSeg s t := by
  unfold evalSeg bernsteinSeg
  rw [evalCoord_eq_bernsteinCoord, evalCoord_eq_bernsteinCoord]

theorem bern_reflect (n : Nat) (f : Nat → Rat) (t : Rat) : bern n (fun i => f (n - i)) t = bern n f (1 - t) := by
  unfold bern
  rw [← sum_range_reflect]
  refine sum_congr rfl fun i hi => ?_
  have hi' : i ≤ n := Nat.lt_succ_iff.mp (mem_range.mp hi)
  simp only [Nat.add_sub_cancel, Nat.choose_symm hi', Nat.sub_sub_self hi', sub_sub_cancel]; ring

theorem seq_reverse (cs : List Rat) (i : Nat) (hi : i ≤ cs.length - 1) : seq cs.reverse i = seq cs (cs.length - 1 - i) := by
  cases cs with
  | nil => rfl
  | cons c r =>
    simp only [seq, List.getD_eq_getElem?_getD, List.getElem?_reverse (show i < (c :: r).length from Nat.lt_succ_iff.mpr hi)]

theorem evalCoord_reverse (cs : List Rat) (t : Rat) : evalCoord cs.reverse t = evalCoord cs (1 - t) := by
  rw [evalCoord_eq_bern, evalCoord_eq_bern, List.length_reverse, ← bern_reflect]
  exact bern_congr (seq_reverse cs) t

theorem evalSeg_reverse (s : Seg) (t : Rat) : evalSeg s.reverse t = evalSeg s (1 - t) := by
  unfold evalSeg Seg.xs Seg.ys
  rw [List.map_reverse, List.map_reverse, evalCoord_reverse, evalCoord_reverse]

/-- the constant coefficient -/
theorem evalCoord_at_zero (cs : List Rat) : evalCoord cs 0 = seq cs 0 := by
  rw [← peval_coordPoly, coordPoly_eq, List.range_succ_eq_map, List.map_cons, peval_cons, zero_mul, add_zero,
    Nat.choose_zero_right, Nat.cast_one, one_mul, pow_zero, Module.End.one_apply]

theorem evalCoord_nil (t : Rat) : evalCoord [] t = 0 := by
  simp [evalCoord, canonCoefs, canonCoef, horner]

theorem evalSeg_nil (t : Rat) : evalSeg [] t = Pt.zero := by
  simp only [evalSeg, Seg.xs, Seg.ys, List.map_nil, evalCoord_nil, Pt.zero]

theorem evalSeg_zero (s : Seg) : evalSeg s 0 = s.headD Pt.zero := by
  cases s with
  | nil => exact evalSeg_nil 0
  | cons p s => unfold evalSeg; rw [evalCoord_at_zero, evalCoord_at_zero]; rfl

theorem evalSeg_one (s : Seg) : evalSeg s 1 = s.getLastD Pt.zero := by
  have h := evalSeg_reverse s 0
  rw [sub_zero] at h
  rw [← h, evalSeg_zero s.reverse, List.headD_eq_head?_getD, List.head?_reverse, List.getLastD_eq_getLast?]

/-! ### closed forms on control polygons of literal length: `coordPoly_eq` evaluated by its defining equations, and
the value as `peval` of that -/

theorem coordPoly_two (a b : Rat) : coordPoly [a, b] = [a, b - a] := by
  simp only [coordPoly_eq, List.length_cons, List.length_nil, Nat.add_sub_cancel, List.range_succ, List.range_zero,
    List.nil_append, List.cons_append, List.map_cons, List.map_nil, pow_succ, pow_zero, one_mul, Module.End.one_apply,
    diff_apply, seq, List.getD_cons_succ, List.getD_cons_zero, Nat.choose, Nat.cast_one, List.cons.injEq, and_true,
    true_and]
  push_cast
  ring

theorem coordPoly_three (a b c : Rat) : coordPoly [a, b, c] = [a, 2 * (b - a), a - 2 * b + c] := by
  simp only [coordPoly_eq, List.length_cons, List.length_nil, Nat.add_sub_cancel, List.range_succ, List.range_zero,
    List.nil_append, List.cons_append, List.map_cons, List.map_nil, pow_succ, pow_zero, one_mul, Module.End.mul_apply,
    Module.End.one_apply, diff_apply, seq, List.getD_cons_succ, List.getD_cons_zero, Nat.choose, Nat.cast_one,
    List.cons.injEq, and_true, true_and]
  push_cast
  refine ⟨?_, ?_⟩ <;> ring

theorem coordPoly_four (a b c d : Rat) :
    coordPoly [a, b, c, d] = [a, 3 * (b - a), 3 * (a - 2 * b + c), d - 3 * c + 3 * b - a] := by
  simp only [coordPoly_eq, List.length_cons, List.length_nil, Nat.add_sub_cancel, List.range_succ, List.range_zero,
    List.nil_append, List.cons_append, List.map_cons, List.map_nil, pow_succ, pow_zero, one_mul, Module.End.mul_apply,
    Module.End.one_apply, diff_apply, seq, List.getD_cons_succ, List.getD_cons_zero, Nat.choose, Nat.cast_one,
    List.cons.injEq, and_true, true_and]
  push_cast
  refine ⟨?_, ?_, ?_⟩ <;> ring

theorem evalCoord_two (a b t : Rat) : evalCoord [a, b] t = (1 - t) * a + t * b := by
  rw [← peval_coordPoly, coordPoly_two, peval_cons, peval_cons, peval_nil]
  ring

theorem evalCoord_three (a b c t : Rat) :
    evalCoord [a, b, c] t = (1 - t) ^ 2 * a + 2 * t * (1 - t) * b + t ^ 2 * c := by
  rw [← peval_coordPoly, coordPoly_three, peval_cons, peval_cons, peval_cons, peval_nil]
  ring

theorem evalCoord_four (a b c d t : Rat) :
    evalCoord [a, b, c, d] t = (1 - t) ^ 3 * a + 3 * t * (1 - t) ^ 2 * b + 3 * t ^ 2 * (1 - t) * c + t ^ 3 * d := by
  rw [← peval_coordPoly, coordPoly_four, peval_cons, peval_cons, peval_cons, peval_cons, peval_nil]
  ring

theorem evalSeg_two (p q : Pt) (t : Rat) : evalSeg [p, q] t = ⟨(1 - t) * p.x + t * q.x, (1 - t) * p.y + t * q.y⟩ :=
  congrArg₂ Pt.mk (evalCoord_two ..) (evalCoord_two ..)

theorem evalSeg_three (a b d : Pt) (t : Rat) :
    evalSeg [a, b, d] t = ⟨(1 - t) ^ 2 * a.x + 2 * t * (1 - t) * b.x + t ^ 2 * d.x,
      (1 - t) ^ 2 * a.y + 2 * t * (1 - t) * b.y + t ^ 2 * d.y⟩ :=
  congrArg₂ Pt.mk (evalCoord_three ..) (evalCoord_three ..)

/-! ### the de Casteljau triangle, along the recursion of `dcLevels` -/

theorem lerp_x (a b : Pt) (t : Rat) : (lerp a b t).x = (1 - t) * a.x + t * b.x := by
  simp only [lerp]; ring

theorem lerp_y (a b : Pt) (t : Rat) : (lerp a b t).y = (1 - t) * a.y + t * b.y := by
  simp only [lerp]; ring

theorem lerp_swap (a b : Pt) (t : Rat) : lerp b a (1 - t) = lerp a b t := by
  simp only [lerp, Pt.mk.injEq]; constructor <;> ring

theorem length_dcStep (t : Rat) : ∀ ps : List Pt, (dcStep t ps).length = ps.length - 1
  | [] => rfl
  | [_] => rfl
  | _ :: b :: rest => congrArg (· + 1) (length_dcStep t (b :: rest))

theorem dcStep_snoc (t : Rat) : ∀ (ps : List Pt) (a b : Pt),
    dcStep t (ps ++ [a, b]) = dcStep t (ps ++ [a]) ++ [lerp a b t]
  | [], _, _ => rfl
  | [_], _, _ => rfl
  | _ :: q :: ps, a, b => by
    have ih := dcStep_snoc t (q :: ps) a b
    simp only [List.cons_append, dcStep] at ih ⊢
    rw [ih]

/-- the triangle of the reversed polygon at `1 - t` is the mirror image of the triangle at `t` -/
theorem dcStep_reverse (t : Rat) : ∀ ps : List Pt, dcStep (1 - t) ps.reverse = (dcStep t ps).reverse
  | [] => rfl
  | [_] => rfl
  | a :: b :: rest => by
    rw [List.reverse_cons, List.reverse_cons, List.append_assoc, List.cons_append, List.nil_append, dcStep_snoc,
      ← List.reverse_cons, dcStep_reverse t (b :: rest), lerp_swap, dcStep, List.reverse_cons]

theorem dcLevels_succ (t : Rat) (fuel : Nat) {ps : List Pt} (h : ps ≠ []) :
    dcLevels t (fuel + 1) ps = ps :: dcLevels t fuel (dcStep t ps) := by
  cases ps with
  | nil => exact absurd rfl h
  | cons _ _ => rfl

theorem dcLevels_reverse (t : Rat) : ∀ (fuel : Nat) (ps : List Pt),
    dcLevels (1 - t) fuel ps.reverse = (dcLevels t fuel ps).map List.reverse
  | 0, _ => rfl
  | _ + 1, [] => rfl
  | fuel + 1, a :: rest => by
    rw [dcLevels_succ _ _ (List.cons_ne_nil a rest), dcLevels_succ _ _ (by simp), dcStep_reverse,
      dcLevels_reverse t fuel, List.map_cons]

theorem splitAt_snd (s : Seg) (t : Rat) : (splitAt s t).2 = (splitAt s.reverse (1 - t)).1.reverse := by
  unfold splitAt
  simp only [List.length_reverse, dcLevels_reverse, List.filterMap_map]
  congr 1
  exact List.filterMap_congr fun l _ => List.head?_reverse.symm

/-! ### the coordinate statements, for a coordinate `c` (`·.x`, `·.y`) that commutes with `lerp` -/

section coord
variable (c : Pt → Rat) (hc : ∀ a b t, c (lerp a b t) = (1 - t) * c a + t * c b)
include hc

/-- on the coordinates of a polygon, `dcStep` is `Dl` (up to the last value, which `dcStep` drops) -/
theorem seq_dcStep (t : Rat) : ∀ (ps : List Pt) (i : Nat), i + 1 < ps.length →
    seq ((dcStep t ps).map c) i = Dl t (seq (ps.map c)) i
  | [], _, h => (Nat.not_lt_zero _ h).elim
  | [_], _, h => (Nat.not_lt_zero _ (Nat.lt_of_succ_lt_succ h)).elim
  | a :: b :: _, 0, _ => hc a b t
  | _ :: b :: rest, i + 1, h => seq_dcStep t (b :: rest) i (Nat.lt_of_succ_lt_succ h)

/-- along the recursion of `dcLevels`: the first point of level `k` has the coordinate `(Dl t)ᵏ c₀`, which reads
`c₀ … c_k` only -/
theorem heads_dcLevels (t : Rat) : ∀ (fuel : Nat) (ps : List Pt), fuel ≤ ps.length →
    ((dcLevels t fuel ps).filterMap List.head?).map c
      = (List.range fuel).map fun k => ((Dl t) ^ k) (seq (ps.map c)) 0
  | 0, _, _ => rfl
  | _ + 1, [], h => (Nat.not_succ_le_zero _ h).elim
  | fuel + 1, a :: rest, h => by
    rw [dcLevels_succ _ _ (List.cons_ne_nil a rest), List.filterMap_cons_some (f := List.head?) (b := a) rfl,
      List.map_cons, heads_dcLevels t fuel _ (by rw [length_dcStep]; exact Nat.le_of_succ_le_succ h),
      List.range_succ_eq_map, List.map_cons, List.map_map]
    congr 1
    refine List.map_congr_left fun k hk => ?_
    have hk' : k + 1 < (a :: rest).length := Nat.lt_of_lt_of_le (Nat.succ_lt_succ (List.mem_range.mp hk)) h
    rw [Function.comp, pow_succ, Module.End.mul_apply]
    exact Dl_pow_congr fun i hi => seq_dcStep c hc t _ i (Nat.lt_of_le_of_lt (Nat.succ_le_succ hi) hk')

theorem splitAt_fst_map (s : Seg) (t : Rat) :
    (splitAt s t).1.map c = (List.range s.length).map fun k => ((Dl t) ^ k) (seq (s.map c)) 0 :=
  heads_dcLevels c hc t s.length s (Nat.le_refl _)

/-- a coordinate of the left piece retraces the coordinate of the segment on `[0, t0]`: its `k`-th control value is
the top `(Dl t0)ᵏ c₀` of the sub-triangle on `c₀ … c_k` (`Dl_left`) -/
theorem evalCoord_map_splitAt_fst (s : Seg) (hs : s ≠ []) (t0 u : Rat) :
    evalCoord ((splitAt s t0).1.map c) u = evalCoord (s.map c) (t0 * u) := by
  have hpos := List.length_pos_iff.mpr hs
  rw [splitAt_fst_map c hc, evalCoord_eq_Dl (s.map c), ← Dl_left, evalCoord_eq_bern, List.length_map, List.length_map,
    List.length_range]
  refine bern_congr (fun k hk => ?_) u
  rw [seq_map _ _ (by rw [List.length_range]; omega), List.getElem_range]

end coord

theorem length_splitAt (s : Seg) (t0 : Rat) :
    (splitAt s t0).1.length = s.length ∧ (splitAt s t0).2.length = s.length := by
  have h : ∀ (s : Seg) (t : Rat), (splitAt s t).1.length = s.length := fun s t => by
    have := congrArg List.length (splitAt_fst_map (·.x) lerp_x s t)
    rwa [List.length_map, List.length_map, List.length_range] at this
  exact ⟨h s t0, by rw [splitAt_snd, List.length_reverse, h, List.length_reverse]⟩

theorem splitAt_ne_nil (s : Seg) (hs : s ≠ []) (t0 : Rat) : (splitAt s t0).1 ≠ [] ∧ (splitAt s t0).2 ≠ [] := by
  obtain ⟨h1, h2⟩ := length_splitAt s t0
  have hpos := List.length_pos_iff.mpr hs
  exact ⟨List.length_pos_iff.mp (h1 ▸ hpos), List.length_pos_iff.mp (h2 ▸ hpos)⟩

theorem evalSeg_splitAt_left (s : Seg) (t0 u : Rat) : evalSeg (splitAt s t0).1 u = evalSeg s (t0 * u) := by
  cases s with
  | nil => exact (evalSeg_nil u).trans (evalSeg_nil _).symm
  | cons a r =>
    unfold evalSeg Seg.xs Seg.ys
    rw [evalCoord_map_splitAt_fst (·.x) lerp_x _ (List.cons_ne_nil a r) t0 u,
      evalCoord_map_splitAt_fst (·.y) lerp_y _ (List.cons_ne_nil a r) t0 u]

/-- through the reversal, from the left piece -/
theorem evalSeg_splitAt_right (s : Seg) (t0 u : Rat) :
    evalSeg (splitAt s t0).2 u = evalSeg s (t0 + u * (1 - t0)) := by
  rw [splitAt_snd, evalSeg_reverse, evalSeg_splitAt_left, evalSeg_reverse]
  congr 1; ring

theorem splitAt_fst_headD (s : Seg) (t0 : Rat) : (splitAt s t0).1.headD Pt.zero = s.headD Pt.zero := by
  rw [← evalSeg_zero, evalSeg_splitAt_left, mul_zero, evalSeg_zero]

theorem splitAt_snd_getLastD (s : Seg) (t0 : Rat) : (splitAt s t0).2.getLastD Pt.zero = s.getLastD Pt.zero := by
  rw [← evalSeg_one, evalSeg_splitAt_right, one_mul, add_sub_cancel, evalSeg_one]

theorem splitAt_fst_getLastD (s : Seg) (t0 : Rat) : (splitAt s t0).1.getLastD Pt.zero = evalSeg s t0 := by
  rw [← evalSeg_one, evalSeg_splitAt_left, mul_one]

theorem splitAt_snd_headD (s : Seg) (t0 : Rat) : (splitAt s t0).2.headD Pt.zero = evalSeg s t0 := by
  rw [← evalSeg_zero, evalSeg_splitAt_right, zero_mul, add_zero]

/-- evaluation is de Casteljau's algorithm: the last point of the left piece -/
theorem evalSeg_eq_dcEval (s : Seg) (t : Rat) : evalSeg s t = dcEval s t :=
  (splitAt_fst_getLastD s t).symm.trans List.getLastD_eq_getLast?

/-! ### the curve stays in the box of its control points: the Bernstein weights are nonnegative and sum to 1 -/

theorem bern_mono {n : Nat} {f g : Nat → Rat} {t : Rat} (ht : 0 ≤ t ∧ t ≤ 1) (h : ∀ i ≤ n, f i ≤ g i) :
    bern n f t ≤ bern n g t :=
  sum_le_sum fun i hi => mul_le_mul_of_nonneg_left (h i (Nat.lt_succ_iff.mp (mem_range.mp hi)))
    (mul_nonneg (mul_nonneg (Nat.cast_nonneg _) (pow_nonneg ht.1 _)) (pow_nonneg (sub_nonneg.mpr ht.2) _))

theorem evalCoord_map_bounds (c : Pt → Rat) (s : Seg) (hs : s ≠ []) {lo hi t : Rat} (ht : 0 ≤ t ∧ t ≤ 1)
    (h : ∀ p ∈ s, lo ≤ c p ∧ c p ≤ hi) : lo ≤ evalCoord (s.map c) t ∧ evalCoord (s.map c) t ≤ hi := by
  have hpos := List.length_pos_iff.mpr hs
  have hv : ∀ i ≤ s.length - 1, lo ≤ seq (s.map c) i ∧ seq (s.map c) i ≤ hi := fun i hi' => by
    rw [seq_map s c (by omega)]
    exact h _ (List.getElem_mem _)
  rw [evalCoord_eq_bern, List.length_map]
  exact ⟨(bern_const _ lo t).symm.le.trans (bern_mono ht fun i hi' => (hv i hi').1),
    (bern_mono ht fun i hi' => (hv i hi').2).trans (bern_const _ hi t).le⟩

/-- a box that holds the control points holds the curve -/
theorem evalSeg_contains (b : Box) (s : Seg) (hs : s ≠ []) {t : Rat} (ht : 0 ≤ t ∧ t ≤ 1)
    (h : ∀ p ∈ s, b.contains p = true) : b.contains (evalSeg s t) = true := by
  simp only [Box.contains_iff] at h ⊢
  have hx := evalCoord_map_bounds (·.x) s hs ht fun p hp => ⟨(h p hp).1, (h p hp).2.1⟩
  have hy := evalCoord_map_bounds (·.y) s hs ht fun p hp => ⟨(h p hp).2.2.1, (h p hp).2.2.2⟩
  exact ⟨hx.1, hx.2, hy.1, hy.2⟩

theorem dcEval_contains (b : Box) (s : Seg) (hs : s ≠ []) {t : Rat} (ht : 0 ≤ t ∧ t ≤ 1)
    (h : ∀ p ∈ s, b.contains p = true) : b.contains (dcEval s t) = true :=
  evalSeg_eq_dcEval s t ▸ evalSeg_contains b s hs ht h

/-- also for the empty control polygon: its curve is the origin and its box is the origin -/
theorem evalSeg_in_box (s : Seg) (t : Rat) (ht : 0 ≤ t ∧ t ≤ 1) : (Seg.box s).contains (evalSeg s t) = true := by
  cases s with
  | nil => rw [evalSeg_nil]; rfl
  | cons p s => exact evalSeg_contains _ _ (List.cons_ne_nil p s) ht fun _ => Box.contains_ofPts

theorem dcEval_in_box (s : Seg) (t : Rat) (ht : 0 ≤ t ∧ t ≤ 1) : (Seg.box s).contains (dcEval s t) = true :=
  evalSeg_eq_dcEval s t ▸ evalSeg_in_box s t ht

/-- a point outside the box of the control points is no point of the curve -/
theorem off_curve_of_not_contains (s : Seg) (c : Pt) (h : (Seg.box s).contains c = false)
    (t : Rat) (ht : 0 ≤ t ∧ t ≤ 1) : evalSeg s t ≠ c :=
  fun he => Bool.noConfusion ((he ▸ evalSeg_in_box s t ht).symm.trans h)

theorem off_curve_of_box (s : Seg) (c : Pt) (h : (Seg.box s).containsTol c = false)
    (t : Rat) (ht : 0 ≤ t ∧ t ≤ 1) : evalSeg s t ≠ c :=
  off_curve_of_not_contains s c (not_contains_of_not_containsTol _ _ h) t ht

/-- a segment of degree 1, 2 or 3: two to four control points (the range of the property statements that carry a degree
bound) -/
def DegLe3 (s : Seg) : Prop := s.length = 2 ∨ s.length = 3 ∨ s.length = 4

end ShapeVerif
