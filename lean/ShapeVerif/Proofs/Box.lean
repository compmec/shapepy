/- Boxes: `listMin` and `listMax` are the extrema of their list (through `List.min?`/`max?`), so the box of a list of
points contains them (`Box.contains_ofPts`); `Box.contains`, the box with margins, and `Box.disjoint` as
`min hi < max lo` on some axis.
That the curve stays in the box is at the end of Proofs/Bezier (`evalSeg_in_box`). -/
import ShapeVerif.Model.Bezier
import Mathlib.Tactic.Ring
import Mathlib.Tactic.Linarith
import Mathlib.Tactic.NormNum

namespace ShapeVerif

theorem listMin_cons (a : Rat) (t : List Rat) : (a :: t).min? = some (listMin (a :: t)) := by
  rw [List.min?_cons', listMin]
  congr 2
  funext m v
  by_cases h : v < m
  · rw [if_pos h, min_eq_right (le_of_lt h)]
  · rw [if_neg h, min_eq_left (not_lt.mp h)]

theorem listMax_cons (a : Rat) (t : List Rat) : (a :: t).max? = some (listMax (a :: t)) := by
  rw [List.max?_cons', listMax]
  congr 2
  funext m v
  by_cases h : m < v
  · rw [if_pos h, max_eq_right (le_of_lt h)]
  · rw [if_neg h, max_eq_left (not_lt.mp h)]

theorem listMin_le {l : List Rat} {v : Rat} (hv : v ∈ l) : listMin l ≤ v := by
  cases l with
  | nil => cases hv
  | cons a t => exact (List.min?_eq_some_iff.mp (listMin_cons a t)).2 v hv

theorem le_listMax {l : List Rat} {v : Rat} (hv : v ∈ l) : v ≤ listMax l := by
  cases l with
  | nil => cases hv
  | cons a t => exact (List.max?_eq_some_iff.mp (listMax_cons a t)).2 v hv

theorem Box.contains_iff (b : Box) (p : Pt) :
    b.contains p = true ↔ b.lo.x ≤ p.x ∧ p.x ≤ b.hi.x ∧ b.lo.y ≤ p.y ∧ p.y ≤ b.hi.y := by
  simp [Box.contains, and_assoc]

theorem Box.contains_ofPts {ps : List Pt} {p : Pt} (hp : p ∈ ps) : (Box.ofPts ps).contains p = true :=
  (Box.contains_iff _ _).mpr ⟨listMin_le (List.mem_map_of_mem hp), le_listMax (List.mem_map_of_mem hp),
    listMin_le (List.mem_map_of_mem hp), le_listMax (List.mem_map_of_mem hp)⟩

theorem not_contains_of_not_containsTol (b : Box) (p : Pt) (h : b.containsTol p = false) : b.contains p = false := by
  have ht : (0 : Rat) < tol6 := by unfold tol6; norm_num
  unfold Box.containsTol at h
  unfold Box.contains
  simp only [Bool.not_eq_false', Bool.or_eq_true, decide_eq_true_eq] at h
  simp only [Bool.and_eq_false_iff, decide_eq_false_iff_not, not_le]
  rcases h with ((h | h) | h) | h
  · left; left; left; linarith
  · left; right; linarith
  · left; left; right; linarith
  · right; linarith

/-- `Box.__and__ is None`: on some axis the smaller upper end lies below the larger lower end -/
theorem Box.disjoint_iff (a b : Box) :
    a.disjoint b = true ↔ min a.hi.x b.hi.x < max a.lo.x b.lo.x ∨ min a.hi.y b.hi.y < max a.lo.y b.lo.y := by
  simp only [Box.disjoint, ← max_def_lt, ← min_def_lt, Bool.or_eq_true, decide_eq_true_eq]

/-- no margin is involved: the test does not depend on the unit of either axis -/
theorem Box.disjoint_scale (alo ahi blo bhi : Pt) (sx sy : Rat) (hx : 0 < sx) (hy : 0 < sy) :
    (⟨alo.scale sx sy, ahi.scale sx sy⟩ : Box).disjoint ⟨blo.scale sx sy, bhi.scale sx sy⟩
      = (⟨alo, ahi⟩ : Box).disjoint ⟨blo, bhi⟩ := by
  rw [Bool.eq_iff_iff, Box.disjoint_iff, Box.disjoint_iff]
  simp only [Pt.scale, ← min_mul_of_nonneg _ _ (le_of_lt hx), ← max_mul_of_nonneg _ _ (le_of_lt hx),
    ← min_mul_of_nonneg _ _ (le_of_lt hy), ← max_mul_of_nonneg _ _ (le_of_lt hy),
    mul_lt_mul_iff_of_pos_right hx, mul_lt_mul_iff_of_pos_right hy]

/-- a point of both boxes lies, on each axis, between the larger lower end and the smaller upper end -/
theorem Box.disjoint_excludes (a b : Box) (h : a.disjoint b = true) (p : Pt) (hp : a.contains p = true) :
    b.contains p = false := by
  rw [Box.disjoint_iff] at h
  rw [Box.contains_iff] at hp
  rw [Bool.eq_false_iff, Ne, Box.contains_iff]
  intro hb
  rcases h with h | h
  · exact not_le.mpr h ((max_le hp.1 hb.1).trans (le_min hp.2.1 hb.2.1))
  · exact not_le.mpr h ((max_le hp.2.2.1 hb.2.2.1).trans (le_min hp.2.2.2 hb.2.2.2))

end ShapeVerif
