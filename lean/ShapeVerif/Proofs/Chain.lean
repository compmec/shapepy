/- Lists of pieces.  Boundary integrals and moments are sums over the pieces of a curve and over the curves of a shape.
A polygon is a list of two-point pieces (`polygon_cons`), `fromVertices` builds one from its corners (`pathEdges`).
A chain is a list of pieces each of which ends where the next begins (`Meets`), spelled as the model and the statements
spell it: the zip of `s, l…` against the shifted list `l…, z`; `Geom.ExactClosed j` is the chain `j` followed by its first
piece again.  What holds along a chain is proved by `chain_induction`.  `Geom.bdry G j` is the integral of the exact
differential `dG` along `j`. -/
import ShapeVerif.Model.Jordan
import Mathlib.Tactic.Ring

namespace ShapeVerif

theorem jordanExactVertical_append (j₁ j₂ : List Seg) (a b : Nat) :
    jordanExactVertical (j₁ ++ j₂) a b = jordanExactVertical j₁ a b + jordanExactVertical j₂ a b := by
  simp [jordanExactVertical, List.map_append, List.sum_append]

theorem jordanExactVertical_flatten (js : List (List Seg)) (a b : Nat) :
    (js.map fun j => jordanExactVertical j a b).sum = jordanExactVertical js.flatten a b := by
  induction js with
  | nil => simp [jordanExactVertical]
  | cons j js ih => simp only [List.map_cons, List.sum_cons, List.flatten_cons, jordanExactVertical_append, ih]

theorem jordanVertical_append (j₁ j₂ : List Seg) (a b : Nat) :
    jordanVertical (j₁ ++ j₂) a b = jordanVertical j₁ a b + jordanVertical j₂ a b := by
  simp [jordanVertical, List.map_append, List.sum_append]

theorem jordanVertical_congr (j : List Seg) (a b : Nat)
    (h : ∀ s ∈ j, vertical s a b = exactVertical s a b) :
    jordanVertical j a b = jordanExactVertical j a b := by
  unfold jordanVertical jordanExactVertical
  rw [List.map_congr_left h]

theorem Jordan.moment_00 (j : Jordan) : j.moment 0 0 = j.area := by
  simp [Jordan.moment, Jordan.area]

theorem shapeExactMoment_eq_sum (js : List Jordan) (a b : Nat) :
    shapeExactMoment js a b = (js.map fun j => Jordan.moment j a b).sum := by
  induction js with
  | nil => exact zero_div _
  | cons j t ih =>
    rw [List.map_cons, List.sum_cons, ← ih, shapeExactMoment, shapeExactMoment, Jordan.moment, List.map_cons,
      List.sum_cons, add_div, Nat.add_comm 1 a]

theorem shapeExactMoment_nil (a b : Nat) : shapeExactMoment [] a b = 0 := by
  rw [shapeExactMoment_eq_sum, List.map_nil, List.sum_nil]

theorem shapeExactMoment_singleton (j : List Seg) (a b : Nat) :
    shapeExactMoment [j] a b = Jordan.moment j a b := by
  rw [shapeExactMoment_eq_sum, List.map_singleton, List.sum_singleton]

theorem shapeExactMoment_append (js₁ js₂ : List (List Seg)) (a b : Nat) :
    shapeExactMoment (js₁ ++ js₂) a b = shapeExactMoment js₁ a b + shapeExactMoment js₂ a b := by
  rw [shapeExactMoment_eq_sum, shapeExactMoment_eq_sum, shapeExactMoment_eq_sum, List.map_append, List.sum_append]

theorem shapeExactMoment_eq (js : List (List Seg)) (a b : Nat) :
    shapeExactMoment js a b = jordanExactVertical js.flatten (a + 1) b / ((a + 1 : Nat) : Rat) := by
  unfold shapeExactMoment
  rw [jordanExactVertical_flatten, Nat.add_comm 1 a]

/-- the edges of the open vertex path `x → l → z` -/
def pathEdges (x : Pt) (l : List Pt) (z : Pt) : List Seg := ((x :: l).zip (l ++ [z])).map fun ab => [ab.1, ab.2]

theorem Jordan.isPolygon_iff (j : Jordan) : j.isPolygon = true ↔ ∀ s ∈ j, s.length = 2 := by
  simp [Jordan.isPolygon]

end ShapeVerif

namespace ShapeVerif.Geom

/-- a polygon is a list of two-point segments: induction principle -/
theorem polygon_cons {s : Seg} {j : Jordan} (h : Jordan.isPolygon (s :: j) = true) :
    (∃ p q, s = [p, q]) ∧ Jordan.isPolygon j = true := by
  simp only [Jordan.isPolygon, List.all_cons, Bool.and_eq_true, beq_iff_eq] at h
  refine ⟨?_, h.2⟩
  match s, h.1 with
  | [p, q], _ => exact ⟨p, q, rfl⟩

theorem polygon_nonempty (j : Jordan) (hj : j.isPolygon = true) : ∀ s ∈ j, s ≠ [] := by
  intro s hs h
  have := (Jordan.isPolygon_iff j).mp hj s hs
  rw [h] at this
  cases this

theorem fromVertices_cons (v0 : Pt) (t : List Pt) : Jordan.fromVertices (v0 :: t) = pathEdges v0 t v0 := rfl

theorem fromVertices_polygon (vs : List Pt) : (Jordan.fromVertices vs).isPolygon = true := by
  cases vs with
  | nil => rfl
  | cons v0 t => rw [fromVertices_cons]; simp [pathEdges, Jordan.isPolygon]

/-- what depends only on the first corner of an edge is read off the corners -/
theorem map_fromVertices {β : Type} (f : Seg → β) (g : Pt → β) (h : ∀ a b, f [a, b] = g a) (vs : List Pt) :
    List.map f (Jordan.fromVertices vs) = vs.map g := by
  cases vs with
  | nil => rfl
  | cons v0 t =>
    rw [fromVertices_cons, pathEdges, List.map_map, show f ∘ (fun ab : Pt × Pt => [ab.1, ab.2]) = g ∘ Prod.fst from
      funext fun ab => h _ _, ← List.map_map, List.map_fst_zip (by simp)]

theorem vertices_fromVertices (vs : List Pt) : (Jordan.fromVertices vs).vertices = vs := by
  rw [Jordan.vertices, List.flatMap_def, map_fromVertices _ (fun p => [p]) (fun _ _ => rfl), ← List.flatMap_def,
    List.flatMap_singleton']

theorem points0_fromVertices (vs : List Pt) : (Jordan.fromVertices vs).points0 = vs :=
  (map_fromVertices _ id (fun _ _ => rfl) vs).trans (List.map_id vs)

theorem length_fromVertices (vs : List Pt) : (Jordan.fromVertices vs).length = vs.length := by
  have := congrArg List.length (points0_fromVertices vs)
  simpa [Jordan.points0] using this

theorem fromVertices_ne_nil {vs : List Pt} (h : vs ≠ []) : Jordan.fromVertices vs ≠ [] :=
  fun e => h (List.length_eq_zero_iff.mp (by rw [← length_fromVertices, e]; rfl))

theorem fromVertices_map (f : Pt → Pt) (vs : List Pt) :
    Jordan.map f (Jordan.fromVertices vs) = Jordan.fromVertices (vs.map f) := by
  cases vs with
  | nil => rfl
  | cons v0 t =>
    rw [List.map_cons, fromVertices_cons, fromVertices_cons, pathEdges, pathEdges, Jordan.map, ← List.map_cons,
      show List.map f t ++ [f v0] = List.map f (t ++ [v0]) by simp, List.zip_map, List.map_map, List.map_map]
    rfl

/-- on a non-empty piece the optional end points of the model are the defaulted ones the proofs speak of -/
theorem head?_eq_headD {l : Seg} (h : l ≠ []) : l.head? = some (l.headD Pt.zero) := by
  cases l with
  | nil => exact absurd rfl h
  | cons a r => rfl

theorem getLast?_eq_getLastD {l : Seg} (h : l ≠ []) : l.getLast? = some (l.getLastD Pt.zero) := by
  rw [List.getLastD_eq_getLast?, List.getLast?_eq_some_getLast h]; rfl

/-- the end point of `a` IS the start point of `b` -/
def Meets (a b : Seg) : Prop := a.getLastD Pt.zero = b.headD Pt.zero

/-- induction ALONG a chain `s, l…` followed by `z`: what holds of no piece from a point to itself, and of `s :: l` from the
start of `s` to `c` whenever it holds of `l` from the END of `s` to `c`, holds of `s :: l` from the start of `s` to the start of `z`
(`hd`, `lst`: whatever of the two ends of a piece the chain condition compares) -/
theorem chain_induction {X : Type} (hd lst : Seg → X) {P : List Seg → X → X → Prop} (nil : ∀ a, P [] a a)
    (cons : ∀ s l c, P l (lst s) c → P (s :: l) (hd s) c) :
    ∀ (l : List Seg) (s z : Seg), (∀ ab ∈ (s :: l).zip (l ++ [z]), lst ab.1 = hd ab.2) → P (s :: l) (hd s) (hd z)
  | [], s, z, h => cons s [] _ (h (s, z) (List.mem_singleton_self _) ▸ nil _)
  | y :: l, s, z, h =>
    cons s _ _ ((List.forall_mem_cons.mp h).1 ▸ chain_induction hd lst nil cons l y z (List.forall_mem_cons.mp h).2)

/-- exact closedness of a chain of segments: every end point IS the next start point, cyclically -/
def ExactClosed (j : Jordan) : Prop :=
  ∀ ab ∈ List.zip j (j.tail ++ j.take 1), ab.1.getLastD Pt.zero = ab.2.headD Pt.zero

/-- pieces `g (a, b)` for the consecutive pairs of `x, l…, z`, where `g (a, b)` ends where `g (b, c)` starts, form a chain;
stated with a piece in front and a piece `w` behind, so that the induction never has to look at the first piece -/
theorem meets_map_zip {α : Type} (g : α × α → Seg) (w : Seg) : ∀ (l : List α) (p x z : α),
    (∀ b ∈ x :: l, ∀ a c, Meets (g (a, b)) (g (b, c))) → (∀ a, Meets (g (a, z)) w) →
    ∀ ab ∈ (g (p, x) :: ((x :: l).zip (l ++ [z])).map g).zip (((x :: l).zip (l ++ [z])).map g ++ [w]), Meets ab.1 ab.2
  | [], p, x, z, h, hw => List.forall_mem_cons.mpr ⟨h x List.mem_cons_self p z, List.forall_mem_cons.mpr ⟨hw x, nofun⟩⟩
  | y :: l, p, x, z, h, hw =>
    List.forall_mem_cons.mpr ⟨h x List.mem_cons_self p y, meets_map_zip g w l x y z (List.forall_mem_cons.mp h).2 hw⟩

/-- … and around the cycle `s, l…` an exactly closed one: `fromVertices` with `g (a, b) = [a, b]`, `fromSegments` with `weld` -/
theorem exactClosed_map_zip {α : Type} (g : α × α → Seg) (s : α) (l : List α)
    (h : ∀ b ∈ s :: l, ∀ a c, Meets (g (a, b)) (g (b, c))) : ExactClosed (((s :: l).zip (l ++ [s])).map g) := by
  cases l with
  | nil => exact List.forall_mem_cons.mpr ⟨h s List.mem_cons_self s s, nofun⟩
  | cons y l => exact meets_map_zip g _ l s y s (List.forall_mem_cons.mp h).2 fun a => h s List.mem_cons_self a y

theorem exactClosed_fromVertices (vs : List Pt) : ExactClosed (Jordan.fromVertices vs) := by
  cases vs with
  | nil => intro ab hab; cases hab
  | cons v0 t => exact exactClosed_map_zip (fun ab => [ab.1, ab.2]) v0 t fun _ _ _ _ => rfl

/-- the sum over the segments of `G end − G start`: the integral of the exact differential `dG` -/
def bdry (G : Pt → Rat) (j : Jordan) : Rat :=
  (List.map (fun s : Seg => G (s.getLastD Pt.zero) - G (s.headD Pt.zero)) j).sum

theorem bdry_cons (G : Pt → Rat) (s : Seg) (j : Jordan) :
    bdry G (s :: j) = G (s.getLastD Pt.zero) - G (s.headD Pt.zero) + bdry G j := by
  simp only [bdry, List.map_cons, List.sum_cons]

/-- it telescopes as soon as `G` takes the same VALUE at the end of each piece and at the start of the next: to
`G z − G s` along `s, l…` followed by `z`, hence to 0 around a closed chain -/
theorem bdry_closed (G : Pt → Rat) (j : Jordan)
    (h : ∀ ab ∈ j.zip (j.tail ++ j.take 1), G (ab.1.getLastD Pt.zero) = G (ab.2.headD Pt.zero)) :
    bdry G j = 0 := by
  cases j with
  | nil => rfl
  | cons s0 t =>
    exact (chain_induction (fun s => G (s.headD Pt.zero)) (fun s => G (s.getLastD Pt.zero))
      (P := fun l a c => bdry G l = c - a) (fun a => (sub_self a).symm) (fun s l c ih => by rw [bdry_cons, ih]; ring)
      t s0 s0 h).trans (sub_self _)

theorem bdry_exactClosed (G : Pt → Rat) (j : Jordan) (h : ExactClosed j) : bdry G j = 0 :=
  bdry_closed G j fun ab hab => by rw [h ab hab]

end ShapeVerif.Geom
