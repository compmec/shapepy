/-
The chords summed by the curved winding number (`subdivChords`, Model/WindCurved.lean) form a PATH along the
curve: consecutive chords share their end point, the path runs from the first to the last control point of the piece, every
chord joins two points of the curve in parameter order, and the chords of a chain of pieces form a path from the start
of the first piece to the start of whatever follows the last (`chain_chords_path`; a closed boundary is the instance in
which that is the first piece again).
-/
import ShapeVerif.Model.WindCurved
import ShapeVerif.Proofs.Bezier
import ShapeVerif.Proofs.Chain

namespace ShapeVerif

/-- `es` is a path of edges from `a` to `b`: consecutive edges share their end point -/
def IsPath : List Edge → Pt → Pt → Prop
  | [], a, b => a = b
  | e :: rest, a, b => e.p = a ∧ IsPath rest e.q b

theorem isPath_append : ∀ {es fs : List Edge} {a b d : Pt}, IsPath es a b → IsPath fs b d → IsPath (es ++ fs) a d
  | [], _, a, b, _, h1, h2 => (show a = b from h1) ▸ h2
  | _ :: _, _, _, _, _, h1, h2 => ⟨h1.1, isPath_append h1.2 h2⟩

theorem isPath_chord (s : Seg) : IsPath [s.chord] (s.headD Pt.zero) (s.getLastD Pt.zero) := by
  simp [IsPath, Seg.chord]

theorem subdivChords_path (c : Pt) (fuel : Nat) (s : Seg) :
    IsPath (subdivChords c fuel s) (s.headD Pt.zero) (s.getLastD Pt.zero) := by
  fun_induction subdivChords c fuel s with
  | case3 _ s _ _ p1 p2 =>
    rw [splitAt_fst_headD, splitAt_fst_getLastD, ← splitAt_snd_headD] at p1
    rw [splitAt_snd_getLastD] at p2
    exact isPath_append p1 p2
  -- the three ways the recursion stops (depth, a straight piece, the point outside the box) all give the chord of the piece
  | _ => exact isPath_chord _

/-- a parameter `t` of the left half is the parameter `t/2` of the piece, one of the right half is `1/2 + t/2` -/
theorem subdivChords_on_curve (c : Pt) (fuel : Nat) (s : Seg) :
    ∀ e ∈ subdivChords c fuel s, ∃ t0 t1 : Rat, 0 ≤ t0 ∧ t0 ≤ t1 ∧ t1 ≤ 1 ∧ e.p = evalSeg s t0 ∧ e.q = evalSeg s t1 := by
  intro e he
  fun_induction subdivChords c fuel s with
  | case3 _ s _ _ hl hr =>
    rcases List.mem_append.mp he with he | he
    · obtain ⟨t0, t1, h0, h01, h1, hp, hq⟩ := hl he
      rw [evalSeg_splitAt_left] at hp hq
      exact ⟨1 / 2 * t0, 1 / 2 * t1, by linarith only [h0], by linarith only [h01], by linarith only [h1], hp, hq⟩
    · obtain ⟨t0, t1, h0, h01, h1, hp, hq⟩ := hr he
      rw [evalSeg_splitAt_right] at hp hq
      exact ⟨1 / 2 + t0 * (1 - 1 / 2), 1 / 2 + t1 * (1 - 1 / 2), by linarith only [h0], by linarith only [h01],
        by linarith only [h1], hp, hq⟩
  | _ =>
    rw [List.mem_singleton.mp he]
    exact ⟨0, 1, le_refl _, zero_le_one, le_refl _, (evalSeg_zero _).symm, (evalSeg_one _).symm⟩

theorem chain_chords_path (c : Pt) (fuel : Nat) : ∀ (l : List Seg) (s z : Seg),
    (∀ ab ∈ (s :: l).zip (l ++ [z]), Geom.Meets ab.1 ab.2) →
    IsPath ((s :: l).flatMap (subdivChords c fuel)) (s.headD Pt.zero) (z.headD Pt.zero) :=
  Geom.chain_induction (·.headD Pt.zero) (·.getLastD Pt.zero)
    (P := fun l a b => IsPath (l.flatMap (subdivChords c fuel)) a b)
    (fun _ => rfl) fun s _ _ ih => isPath_append (subdivChords_path c fuel s) ih

end ShapeVerif
