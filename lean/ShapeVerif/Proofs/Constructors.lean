/- The constructors of a closed curve: `fromSegments` accepts exactly the closed chains and keeps them, welding the
junctions (`weld`, `weldChain`) makes a chain exactly closed (`ClosedExact`) and keeps its degrees, `fromVertices` is
exactly closed (C17). -/
import ShapeVerif.Proofs.Chain

namespace ShapeVerif.Misc
open ShapeVerif

/-- a closed chain with EXACT junctions: non-empty, every segment non-empty, every end point IS the
next start point, cyclically (`Geom.ExactClosed`) -/
def ClosedExact (j : Jordan) : Prop :=
  j ≠ [] ∧ (∀ s ∈ j, s ≠ []) ∧ Geom.ExactClosed j

/-- the repair step of `from_segments` on one junction -/
def weld (ab : Seg × Seg) : Seg := ab.1.dropLast ++ [ab.2.headD Pt.zero]

/-- the cyclic list `s, l…` (closed by `z = s`) after the repair step at every junction -/
def weldChain (s : Seg) (l : List Seg) (z : Seg) : List Seg := ((s :: l).zip (l ++ [z])).map weld

theorem weldChain_nil (s z : Seg) : weldChain s [] z = [weld (s, z)] := rfl
theorem weldChain_cons (s y : Seg) (l : List Seg) (z : Seg) :
    weldChain s (y :: l) z = weld (s, y) :: weldChain y l z := rfl

end ShapeVerif.Misc

namespace ShapeVerif
open Misc

/-- `Point2D.__eq__` is reflexive: the tolerance `1e-9` is not negative -/
theorem Pt.eqTol_refl (p : Pt) : Pt.eqTol p p = true := by
  have h : ¬ ((0 : Rat) > tol9) := by decide +kernel
  simp [Pt.eqTol, absR, h]

theorem Jordan.fromSegments_cons (s0 : Seg) (rest : Jordan) :
    Jordan.fromSegments (s0 :: rest) =
      if Jordan.closedChain (s0 :: rest) then some (weldChain s0 rest s0) else none := rfl

theorem Jordan.closedChain_cons (s0 : Seg) (rest : Jordan) :
    Jordan.closedChain (s0 :: rest) = ((s0 :: rest).zip (rest ++ [s0])).all fun ab =>
      match ab.1.getLast?, ab.2.head? with
      | some e, some s => Pt.eqTol e s
      | _, _ => false := rfl

theorem Jordan.closedChain_iff (s0 : Seg) (rest : Jordan) :
    Jordan.closedChain (s0 :: rest) = true ↔
      ∀ ab ∈ (s0 :: rest).zip (rest ++ [s0]), ∃ e s, ab.1.getLast? = some e ∧ ab.2.head? = some s
        ∧ Pt.eqTol e s = true := by
  rw [Jordan.closedChain_cons, List.all_eq_true]
  refine forall₂_congr fun ab _ => ?_
  cases ab.1.getLast? <;> cases ab.2.head? <;> simp

theorem Jordan.closedChain_nonempty {s0 : Seg} {rest : Jordan} (h : Jordan.closedChain (s0 :: rest) = true) :
    ∀ ab ∈ (s0 :: rest).zip (rest ++ [s0]), ab.1 ≠ [] := by
  intro ab hab e0
  obtain ⟨e, _, he, _⟩ := (Jordan.closedChain_iff s0 rest).mp h ab hab
  rw [e0] at he
  cases he

theorem Jordan.fromSegments_eq_some {j j' : Jordan} (h : Jordan.fromSegments j = some j') :
    (j = [] ∧ j' = []) ∨
      ∃ s0 rest, j = s0 :: rest ∧ Jordan.closedChain j = true ∧ j' = weldChain s0 rest s0 := by
  cases j with
  | nil => exact Or.inl ⟨rfl, (Option.some.inj h).symm⟩
  | cons s0 rest =>
    rw [Jordan.fromSegments_cons] at h
    split at h
    · rename_i hcc
      exact Or.inr ⟨s0, rest, rfl, hcc, (Option.some.inj h).symm⟩
    · cases h

theorem Misc.weld_of_meets {a b : Seg} (ha : a ≠ []) (h : Geom.Meets a b) : weld (a, b) = a := by
  unfold weld
  rw [← h, List.getLastD_eq_getLast?, List.getLast?_eq_some_getLast ha]
  exact List.dropLast_concat_getLast ha

theorem Jordan.fromSegments_of_closedExact {j : Jordan} (h : ClosedExact j) : Jordan.fromSegments j = some j := by
  obtain ⟨hne, hs, hc⟩ := h
  cases j with
  | nil => exact absurd rfl hne
  | cons s0 rest =>
    have hmem : ∀ ab ∈ (s0 :: rest).zip (rest ++ [s0]), ab.1 ≠ [] ∧ ab.2 ≠ [] := fun ab hab =>
      ⟨hs _ (List.of_mem_zip hab).1, hs _ (by simpa [or_comm] using (List.of_mem_zip hab).2)⟩
    have hcc : Jordan.closedChain (s0 :: rest) = true :=
      (Jordan.closedChain_iff s0 rest).mpr fun ab hab =>
        ⟨_, _, Geom.getLast?_eq_getLastD (hmem ab hab).1, Geom.head?_eq_headD (hmem ab hab).2,
          by rw [hc ab hab]; exact Pt.eqTol_refl _⟩
    rw [Jordan.fromSegments_cons, if_pos hcc, weldChain,
      List.map_congr_left fun ab hab => weld_of_meets (hmem ab hab).1 (hc ab hab), List.map_fst_zip (by simp)]

theorem Misc.closedExact_fromVertices {vs : List Pt} (h : vs ≠ []) : ClosedExact (Jordan.fromVertices vs) :=
  ⟨Geom.fromVertices_ne_nil h, Geom.polygon_nonempty _ (Geom.fromVertices_polygon vs), Geom.exactClosed_fromVertices vs⟩

theorem Misc.weld_getLastD (a b : Seg) : (weld (a, b)).getLastD Pt.zero = b.headD Pt.zero := by
  simp [weld, List.getLastD_eq_getLast?]

theorem Misc.weld_headD (a b : Seg) (h : 2 ≤ a.length) : (weld (a, b)).headD Pt.zero = a.headD Pt.zero := by
  match a, h with
  | p :: q :: t, _ => rfl

theorem Misc.weld_length (a b : Seg) (h : a ≠ []) : (weld (a, b)).length = a.length := by
  rw [weld, List.length_append, List.length_dropLast, List.length_singleton]
  exact Nat.sub_add_cancel (List.length_pos_iff.mpr h)

theorem Misc.weldChain_lengths (s : Seg) (l : List Seg) (z : Seg)
    (hne : ∀ ab ∈ (s :: l).zip (l ++ [z]), ab.1 ≠ []) :
    (weldChain s l z).map List.length = (s :: l).map List.length := by
  have h : ∀ ab ∈ (s :: l).zip (l ++ [z]), (List.length ∘ weld) ab = (List.length ∘ Prod.fst) ab :=
    fun ab hab => weld_length ab.1 ab.2 (hne ab hab)
  rw [weldChain, List.map_map, List.map_congr_left h, ← List.map_map, List.map_fst_zip (by simp)]

/-- `weld (a, b)` ends at the start of `b`, where `weld (b, c)` starts when `b` has two control points -/
theorem Misc.weldChain_exactClosed (s : Seg) (l : List Seg) (h : ∀ t ∈ s :: l, 2 ≤ t.length) :
    Geom.ExactClosed (weldChain s l s) :=
  Geom.exactClosed_map_zip weld s l fun b hb a c => (weld_getLastD a b).trans (weld_headD b c (h b hb)).symm

end ShapeVerif
