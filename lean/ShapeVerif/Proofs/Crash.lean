/- The heap split of a polygon is `Jordan.split` of its geometry (`view_step_split`): each step of the fold appends to
what it has read the value-level split of one segment (`read_splitFold`); a split polygon is the `SameRegion`, so query
effects keep every polygon's region (`sameRegion_runOps`).  (C11) -/
import ShapeVerif.Model.Crash
import ShapeVerif.Proofs.SplitLine
import ShapeVerif.Proofs.Sort
import ShapeVerif.Proofs.Heap

namespace ShapeVerif.Geom
open ShapeVerif ShapeVerif.Misc

/-- a cut of the rest `[lerp P Q prev, Q]` at the relative parameter is the cut of `[P, Q]` at the absolute one -/
theorem lerp_lerp_rest (P Q : Pt) (prev n : Rat) (h : prev ≠ 1) :
    lerp (lerp P Q prev) Q ((n - prev) / (1 - prev)) = lerp P Q n := by
  -- coordinate by coordinate: the rest from `m = p + prev (q − p)` to `q` is `(1 − prev) (q − p)`
  have key : ∀ p q : Rat,
      p + prev * (q - p) + (n - prev) / (1 - prev) * (q - (p + prev * (q - p))) = p + n * (q - p) := fun p q => by
    rw [show q - (p + prev * (q - p)) = (1 - prev) * (q - p) by ring, ← mul_assoc,
      div_mul_cancel₀ _ (sub_ne_zero.mpr (Ne.symm h))]
    ring
  exact Pt.ext' (key P.x Q.x) (key P.y Q.y)

/-- `splitMany` on a straight segment: the cut points are the points of the ORIGINAL segment at the
(absolute) node parameters -/
theorem splitMany_line_abs : ∀ (nodes : List Rat) (prev : Rat) (P Q : Pt), prev ≠ 1 →
    (∀ n ∈ nodes, n ≠ 1) →
    splitMany [lerp P Q prev, Q] prev nodes = chainSegs (lerp P Q prev :: nodes.map (lerp P Q) ++ [Q])
  | [], prev, P, Q, _, _ => rfl
  | n :: rest, prev, P, Q, hp, hn => by
    simp only [splitMany, splitAt_line, lerp_lerp_rest P Q prev n hp]
    rw [splitMany_line_abs rest n P Q (hn n (by simp)) (fun m hm => hn m (List.mem_cons_of_mem _ hm))]
    rfl

theorem keepNode_ne_one {t : Rat} (h : keepNode t = true) : t ≠ 1 := by
  intro e; subst e
  have : keepNode 1 = false := by decide +kernel
  rw [this] at h; cases h

/-- what `JordanCurve.split` does to a straight segment `[p, q]` given its kept nodes -/
theorem splitSeg_line_chain (p q : Pt) (ns : List Rat) (h : ∀ t ∈ ns, keepNode t = true) :
    splitSeg [p, q] ns = chainSegs (p :: (dedupNodes (sortRat ns)).map (lerp p q) ++ [q]) := by
  have hne : ∀ n ∈ dedupNodes (sortRat ns), n ≠ 1 := fun n hn =>
    keepNode_ne_one (h n ((mem_sortRat ns n).mp ((dedupNodes_sublist _).subset hn)))
  have key := splitMany_line_abs (dedupNodes (sortRat ns)) 0 p q (by decide) hne
  rwa [lerp_zero, ← splitSeg_line_eq] at key

end ShapeVerif.Geom

namespace ShapeVerif.Misc
open ShapeVerif

structure SameRegion (j j' : Jordan) : Prop where
  poly : j'.isPolygon = true
  wind : ∀ r, wind j'.edges r = wind j.edges r
  mem : ∀ r, memW j' r = memW j r
  area : Jordan.area j' = Jordan.area j
  moment : ∀ a b, a + b ≤ 2 → Jordan.moment j' a b = Jordan.moment j a b

theorem SameRegion.refl {j : Jordan} (hj : j.isPolygon = true) : SameRegion j j :=
  ⟨hj, fun _ => rfl, fun _ => rfl, rfl, fun _ _ _ => rfl⟩

theorem SameRegion.trans {j j' j'' : Jordan} (h1 : SameRegion j j') (h2 : SameRegion j' j'') :
    SameRegion j j'' :=
  ⟨h2.poly, fun r => (h2.wind r).trans (h1.wind r), fun r => (h2.mem r).trans (h1.mem r),
    h2.area.trans h1.area, fun a b hab => (h2.moment a b hab).trans (h1.moment a b hab)⟩

theorem SameRegion.split {j : Jordan} (hj : j.isPolygon = true) (pairs : List (Nat × Rat)) :
    SameRegion j (Jordan.split j pairs) :=
  ⟨Geom.jordanSplit_polygon j hj pairs, Geom.jordanSplit_wind j hj pairs, Geom.jordanSplit_memW j hj pairs,
    Geom.jordanSplit_area j hj pairs, fun a b _ => Geom.jordanSplit_moment j hj pairs a b⟩

end ShapeVerif.Misc

namespace ShapeVerif.Heap
open ShapeVerif ShapeVerif.Misc

/-- the geometry that an accumulator of the fold of `split` (a heap and id-segments) denotes -/
def read (acc : Heap × List (List Nat)) : Jordan := acc.1.geom ⟨acc.2, none⟩

theorem read_append (H : Heap) (S T : List (List Nat)) : read (H, S ++ T) = read (H, S) ++ read (H, T) :=
  List.map_append

/-- allocation leaves id-segments over allocated cells as they read -/
theorem read_alloc (H : Heap) (M : List Pt) {S : List (List Nat)} (hS : ∀ i ∈ S.flatten, i < H.cells.length) :
    read (⟨H.cells ++ M, H.vars⟩, S) = read (H, S) :=
  geom_congr _ _ _ fun i hi => getD_append_lt _ _ i _ (hS i hi)

/-- the chain from `a` to `b` through the freshly allocated cells reads as the chain through their values -/
theorem read_freshChain (H : Heap) (M : List Pt) {a b : Nat} (ha : a < H.cells.length) (hb : b < H.cells.length) :
    read (⟨H.cells ++ M, H.vars⟩, chainSegs (a :: (List.range M.length).map (H.cells.length + ·) ++ [b]))
      = chainSegs (H.cell a :: M ++ [H.cell b]) := by
  have mids : (List.range M.length).map (Heap.cell ⟨H.cells ++ M, H.vars⟩ ∘ (H.cells.length + ·)) = M := by
    apply List.ext_getElem
    · simp
    · intro i h1 _
      simp only [List.length_map, List.length_range] at h1
      simp only [List.getElem_map, List.getElem_range, Function.comp_apply, cell, getD_append_ge]
      simp [h1]
  unfold read geom
  rw [chainSegs_map]
  simp only [List.cons_append, List.map_cons, List.map_append, List.map_map, List.map_nil, mids]
  rw [show Heap.cell ⟨H.cells ++ M, H.vars⟩ a = H.cell a from getD_append_lt _ _ _ _ ha,
    show Heap.cell ⟨H.cells ++ M, H.vars⟩ b = H.cell b from getD_append_lt _ _ _ _ hb]

/-- one step of the heap split on a straight segment: one fresh cell per kept node of the segment, and the
chain of id-segments through them (the cells are named, so that the ids are counted by `M.length`) -/
theorem splitStep_line (pairs : List (Nat × Rat)) (H : Heap) (S : List (List Nat)) (a b k : Nat) {M : List Pt}
    (hM : (dedupNodes (sortRat (Geom.nodesFor pairs k))).map (lerp (H.cell a) (H.cell b)) = M) :
    splitStep (pairs.filter fun (_, t) => keepNode t) (H, S) ([a, b], k) =
      (⟨H.cells ++ M, H.vars⟩, S ++ chainSegs (a :: (List.range M.length).map (H.cells.length + ·) ++ [b])) := by
  rw [← hM, List.length_map]; rfl

/-- the fold over straight segments `L` appends, to what the accumulator reads, the value-level split of what `L` reads.
Stated about the CURRENT heap only, whose cells the ids at hand address: "cells are only appended" is used for one step
(`read_alloc`) and never along the fold. -/
theorem read_splitFold (pairs : List (Nat × Rat)) : ∀ (L : List (List Nat)) (k : Nat) (H : Heap) (S : List (List Nat)),
    (∀ s ∈ L, s.length = 2) → (∀ i ∈ (S ++ L).flatten, i < H.cells.length) →
    read ((L.zipIdx k).foldl (splitStep (pairs.filter fun (_, t) => keepNode t)) (H, S))
      = read (H, S) ++ Geom.valueSplit pairs (read (H, L)) k
  | [], k, H, S, _, _ => by simp [Geom.valueSplit, read, geom]
  | s :: L', k, H, S, hL, hlt => by
    obtain ⟨a, b, rfl⟩ := List.length_eq_two.mp (hL s (by simp))
    simp only [List.flatten_append, List.flatten_cons, List.mem_append] at hlt
    rw [List.zipIdx_cons, List.foldl_cons, splitStep_line pairs H S a b k rfl,
      read_splitFold pairs L' (k + 1) _ _ (fun s hs => hL s (List.mem_cons_of_mem _ hs)) fun i hi => ?_, read_append,
      read_alloc H _ fun i hi => hlt i (.inl hi), read_alloc H _ (S := L') fun i hi => hlt i (.inr (.inr hi)),
      read_freshChain H _ (hlt a (by simp)) (hlt b (by simp)), List.append_assoc,
      ← Geom.splitSeg_line_chain _ _ _ (fun t ht => (Geom.nodesFor_mem pairs k t ht).2)]
    · rw [← Geom.splitSeg_line_ite]
      exact congrArg _ (Geom.valueSplit_cons pairs [H.cell a, H.cell b] (read (H, L')) k).symm
    · -- the ids after the step: the old ones, and on the new chain the two ends and the fresh cells
      simp only [List.flatten_append, List.mem_append, List.length_append] at hi ⊢
      rcases hi with (hi | hi) | hi
      · exact Nat.lt_add_right _ (hlt i (.inl hi))
      · exact (mem_freshChain hi).elim (fun hab => Nat.lt_add_right _ (hlt i (.inr (.inl hab)))) And.right
      · exact Nat.lt_add_right _ (hlt i (.inr (.inr hi)))

theorem polygon_segs {h : Heap} {c : HCurve} (hp : (h.geom c).isPolygon = true) :
    ∀ s ∈ c.segs, s.length = 2 := fun s hs => by
  simpa using (Jordan.isPolygon_iff _).mp hp _ (List.mem_map_of_mem (f := List.map h.cell) hs)

/-- for a polygon, the geometry after the heap-level `split` IS `JordanCurve.split` of the geometry before -/
theorem view_step_split {h : Heap} (hw : h.WF) {v : Nat} {c : HCurve} (hl : h.lookup v = some c)
    (hp : (h.geom c).isPolygon = true) (pairs : List (Nat × Rat)) :
    (h.step (.split v pairs)).1.view v = some (Jordan.split (h.geom c) pairs) := by
  rw [step_split, hl, view_setVar_self]
  exact congrArg some (read_splitFold pairs c.segs 0 h [] (polygon_segs hp) (hw.bound v c (lookup_mem hl)))

/-- a query effect leaves the geometry of `w` as it is, unless it is a split of `w`; on a polygon that split is
the value-level split -/
theorem view_step_effect {h : Heap} (hw : h.WF) (hs : h.Sep) (op : HeapOp) (hq : op.isQueryEffect = true)
    (w : Nat) :
    (h.step op).1.view w = h.view w ∨
      ∃ pairs, op = .split w pairs ∧ ∀ c, h.lookup w = some c → (h.geom c).isPolygon = true →
        (h.step op).1.view w = some (Jordan.split (h.geom c) pairs) := by
  by_cases e : op.target = w
  · subst e
    cases op with
    | len v => exact Or.inl (view_step_len h v)
    | split v pairs => exact Or.inr ⟨pairs, rfl, fun c hl hp => view_step_split hw hl hp pairs⟩
    | _ => cases hq
  · exact Or.inl (frame_step hw hs op e)

/-- query effects keep the region of every polygon variable -/
theorem sameRegion_runOps (ops : List HeapOp) {h : Heap} (I : h.Inv) (hq : ∀ op ∈ ops, op.isQueryEffect = true)
    {w : Nat} {j : Jordan} (hj : h.view w = some j) (hp : j.isPolygon = true) :
    ∃ j', (h.runOps ops).view w = some j' ∧ SameRegion j j' :=
  runOps_induction (P := fun h' => ∃ j', h'.view w = some j' ∧ SameRegion j j')
    (fun {h'} hw hs ⟨j1, h1, s1⟩ op hq => by
      rcases view_step_effect hw hs op hq w with e | ⟨pairs, rfl, e⟩
      · exact ⟨j1, e.trans h1, s1⟩
      · obtain ⟨c, hl, rfl⟩ := view_eq_some_iff.mp h1
        exact ⟨_, e c hl s1.poly, s1.trans (SameRegion.split s1.poly pairs)⟩)
    ops I.wf I.sep ⟨j, hj, SameRegion.refl hp⟩ hq

/-- query effects other than a split of `w` leave the geometry of `w` EXACTLY as it was (any degree) -/
theorem view_sameRegion_runOps {h : Heap} (I : h.Inv) (ops : List HeapOp)
    (hq : ∀ op ∈ ops, op.isQueryEffect = true) {w : Nat} (hns : ∀ op ∈ ops, ∀ pairs, op ≠ .split w pairs) :
    (h.runOps ops).view w = h.view w :=
  runOps_induction (P := fun h' => h'.view w = h.view w)
    (Q := fun op => op.isQueryEffect = true ∧ ∀ pairs, op ≠ .split w pairs)
    (fun hw hs hp op hq => ((view_step_effect hw hs op hq.1 w).resolve_right fun ⟨pairs, e, _⟩ => hq.2 pairs e).trans hp)
    ops I.wf I.sep rfl fun op ho => ⟨hq op ho, hns op ho⟩

end ShapeVerif.Heap
