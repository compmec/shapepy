/-
Closed vertex cycles: the canonical start vertex (`canonCycle`), the cleaning loop (`cleanStep`, `cleanCycle`), and their
behaviour under a change of the start vertex.  A rotation `rotateL vs k` is the swap `A ++ B ↦ B ++ A` of the two
halves `A = vs.take k`, `B = vs.drop k`; every rotation fact is proved in that form.

`canonCycle` of a duplicate-free cycle starts at its least vertex, so it does not see the swap (`Pt.lt` is the lexicographic
order of `(x, y)`, `Pt.lt_iff`: order facts and the least vertex, `List.minOn`, are the library's).  `cleanCycle` with enough
fuel returns the list of NON-removable vertices (`keepers`); "non-removable" is a cyclic notion, so the keepers of a
swapped cycle are the swapped keepers.  Together: `jordan == jordan` (`eqJ`) does not depend on the start vertex, also
when the polygon has removable (collinear) vertices.

Two devices carry the part about `keepers`.  (a) `kl u l w`, the keepers of a PATH `l` whose outer neighbours `u`, `w`
are given: at a split `l1 ++ v :: l2` of the path it tests `v` against the last vertex of `l1`, else `u`, and the first of
`l2`, else `w`.  At a split of the CYCLE the model's test with `% n` is the same with the last and the first vertex of the
cycle as `u`, `w` (`removableAt_append_length`; indices end there), so `keepers vs = kl (last of vs) vs (first of vs)`
(`kl_eq_filter`, `keepers_eq_kl`).  `kl` of `l1 ++ l2` is the two `kl`s side by side (`kl_append`), which makes the swap
immediate.  (b) erasing a removable vertex does not change whether its two neighbours are removable (`removable3_pred`,
`removable3_succ`: an exact rational identity), hence not the keepers (`kl_erase` for a path, `keepers_erase` for the
cycle): every step of the loop (`cleanStep_some`) preserves `keepers`, and the loop stops when only keepers are left.
-/
import ShapeVerif.Model.Wf
import ShapeVerif.Proofs.Pt
import ShapeVerif.Proofs.Chain
import Mathlib.Tactic.Ring
import Mathlib.Tactic.Linarith
import Mathlib.Data.List.Nodup
import Mathlib.Data.List.Perm.Basic
import Mathlib.Data.Prod.Lex

namespace ShapeVerif.Alg
open ShapeVerif ShapeVerif.Geom

theorem rotateL_append_length {α} (A B : List α) : rotateL (A ++ B) A.length = B ++ A := by
  simp [rotateL]

theorem rotateL_length {α} (l : List α) (k : Nat) : (rotateL l k).length = l.length := by
  simp only [rotateL, List.length_append, List.length_drop, List.length_take]; omega

theorem rotateL_zero {α} (A : List α) : rotateL A 0 = A := by simp [rotateL]

def _root_.ShapeVerif.Pt.key (p : Pt) : Lex (Rat × Rat) := toLex (p.x, p.y)

theorem _root_.ShapeVerif.Pt.lt_iff (p q : Pt) : p.lt q = true ↔ p.key < q.key := by
  simp only [Pt.lt, Pt.key, Prod.Lex.toLex_lt_toLex, Bool.or_eq_true, Bool.and_eq_true, decide_eq_true_eq]

theorem _root_.ShapeVerif.Pt.lt_eq_false_iff (p q : Pt) : p.lt q = false ↔ q.key ≤ p.key := by
  rw [← Bool.not_eq_true, Pt.lt_iff, not_lt]

theorem _root_.ShapeVerif.Pt.key_injective {p q : Pt} (h : p.key = q.key) : p = q := by
  cases p; cases q; simpa [Pt.key] using h

/-- the fold of `canonCycle` -/
def bestIdx (l : List Pt) (n : Nat) (acc : Nat × Pt) : Nat × Pt :=
  (l.zipIdx n).foldl (fun (acc : Nat × Pt) (v, i) => if v.lt acc.2 then (i, v) else acc) acc

theorem canonCycle_eq (v0 : Pt) (t : List Pt) :
    canonCycle (v0 :: t) = rotateL (v0 :: t) (bestIdx (v0 :: t) 0 (0, v0)).1 := rfl

theorem bestIdx_nil (n : Nat) (acc : Nat × Pt) : bestIdx [] n acc = acc := rfl

theorem bestIdx_cons (v : Pt) (l : List Pt) (n : Nat) (acc : Nat × Pt) :
    bestIdx (v :: l) n acc = bestIdx l (n + 1) (if v.lt acc.2 then (n, v) else acc) := by
  simp [bestIdx, List.zipIdx_cons]

/-- stated for an explicit pair: with a bare `acc` and `acc.2` in the hypothesis every use leaves the unifier a stuck
projection, which is very slow to give up on -/
theorem bestIdx_noChange (l : List Pt) (n i : Nat) (w : Pt) (h : ∀ v ∈ l, v.lt w = false) :
    bestIdx l n (i, w) = (i, w) := by
  induction l generalizing n with
  | nil => rfl
  | cons a t ih =>
    rw [bestIdx_cons, h a (by simp)]
    exact ih _ (fun v hv => h v (by simp [hv]))

/-- `m` is strictly below every vertex of `l1`, which comes before it, and not above any vertex of `l2`, which comes after it:
the fold settles on `m` -/
theorem bestIdx_hit (l1 l2 : List Pt) (m : Pt) (n : Nat) (acc : Nat × Pt)
    (h0 : m.lt acc.2 = true) (h1 : ∀ v ∈ l1, m.lt v = true) (h2 : ∀ v ∈ l2, v.lt m = false) :
    bestIdx (l1 ++ m :: l2) n acc = (n + l1.length, m) := by
  induction l1 generalizing n acc with
  | nil =>
    rw [List.nil_append, bestIdx_cons, if_pos h0]
    exact bestIdx_noChange l2 _ _ m h2
  | cons a t ih =>
    have h0' : m.lt (if a.lt acc.2 then (n, a) else acc).2 = true := by
      split
      · exact h1 a List.mem_cons_self
      · exact h0
    rw [List.cons_append, bestIdx_cons, ih (n + 1) _ h0' fun v hv => h1 v (List.mem_cons_of_mem _ hv),
      List.length_cons, Nat.add_right_comm, Nat.add_assoc]

/-- a duplicate-free cycle starts, in canonical form, at its least vertex -/
theorem canonCycle_of_min (l1 l2 : List Pt) (m : Pt) (hnd : (l1 ++ m :: l2).Nodup)
    (hmin : ∀ v ∈ l1 ++ m :: l2, m.key ≤ v.key) : canonCycle (l1 ++ m :: l2) = m :: l2 ++ l1 := by
  have h1 : ∀ v ∈ l1, m.lt v = true := fun v hv =>
    (Pt.lt_iff m v).2 (lt_of_le_of_ne (hmin v (List.mem_append_left _ hv)) fun h =>
      (List.nodup_append.mp hnd).2.2 v hv m List.mem_cons_self (Pt.key_injective h).symm)
  have h2 : ∀ v ∈ m :: l2, v.lt m = false := fun v hv =>
    (Pt.lt_eq_false_iff v m).2 (hmin v (List.mem_append_right _ hv))
  rw [← rotateL_append_length l1 (m :: l2)]
  cases l1 with
  | nil => rw [List.nil_append, canonCycle_eq, bestIdx_noChange (m :: l2) 0 0 m h2]; rfl
  | cons v0 t =>
    rw [List.cons_append, canonCycle_eq, ← List.cons_append,
      bestIdx_hit (v0 :: t) l2 m 0 (0, v0) (h1 v0 List.mem_cons_self) h1 (fun v hv => h2 v (List.mem_cons_of_mem _ hv)),
      Nat.zero_add]

theorem canonCycle_swap_of_mem {A B : List Pt} (hnd : (A ++ B).Nodup) {m : Pt} (hm : m ∈ A)
    (hmin : ∀ v ∈ A ++ B, m.key ≤ v.key) : canonCycle (B ++ A) = canonCycle (A ++ B) := by
  obtain ⟨a1, a2, rfl⟩ := List.append_of_mem hm
  rw [List.append_assoc, List.cons_append] at hnd hmin ⊢
  have p : ((B ++ a1) ++ m :: a2).Perm (a1 ++ m :: (a2 ++ B)) := by
    simpa only [List.append_assoc, List.cons_append] using List.perm_append_comm (l₁ := B) (l₂ := a1 ++ m :: a2)
  -- both sides are the cycle `m :: a2 ++ B ++ a1`
  rw [← List.append_assoc B, canonCycle_of_min _ _ m (p.nodup_iff.2 hnd) fun v hv => hmin v (p.mem_iff.1 hv),
    canonCycle_of_min _ _ m hnd hmin]
  simp only [List.cons_append, List.append_assoc]

theorem canonCycle_swap (A B : List Pt) (hnd : (A ++ B).Nodup) : canonCycle (B ++ A) = canonCycle (A ++ B) := by
  by_cases hne : A ++ B = []
  · obtain ⟨rfl, rfl⟩ := List.append_eq_nil_iff.mp hne
    rfl
  have hmin : ∀ v ∈ A ++ B, ((A ++ B).minOn Pt.key hne).key ≤ v.key := fun _ hv => List.apply_minOn_le_of_mem hv
  rcases List.mem_append.mp (List.minOn_mem (f := Pt.key) (h := hne)) with h | h
  · exact canonCycle_swap_of_mem hnd h hmin
  · exact (canonCycle_swap_of_mem (List.nodup_append_comm.mp hnd) h
      (fun v hv => hmin v (List.perm_append_comm.mem_iff.mp hv))).symm

theorem canonCycle_rotate (vs : List Pt) (hnd : vs.Nodup) (k : Nat) :
    canonCycle (rotateL vs k) = canonCycle vs := by
  have := canonCycle_swap (vs.take k) (vs.drop k) (by rwa [List.take_append_drop])
  rwa [List.take_append_drop] at this

/-- vertex `i` would be dropped by `JordanCurve.clean`; the same test as `removableAt` below (`removableAt_eq_removable`) -/
def removable (vs : List Pt) (i : Nat) : Bool :=
  let n := vs.length
  let u := vs.getD ((i + n - 1) % n) Pt.zero
  let v := vs.getD i Pt.zero
  let w := vs.getD ((i + 1) % n) Pt.zero
  decide (Pt.cross (v - u) (w - v) = 0) && decide (0 < Pt.inner (v - u) (w - v))

end ShapeVerif.Alg

namespace ShapeVerif
open ShapeVerif.Alg ShapeVerif.Geom

/-- the test of `cleanStep` on three consecutive vertices `u, v, w`: `v` is dropped -/
def removable3 (u v w : Pt) : Bool :=
  decide (Pt.cross (v - u) (w - v) = 0) && decide (0 < Pt.inner (v - u) (w - v))

/-- vertex `i` of the cycle `vs` satisfies the test of `cleanStep` -/
def removableAt (vs : List Pt) (i : Nat) : Bool :=
  let n := vs.length
  removable3 (vs.getD ((i + n - 1) % n) Pt.zero) (vs.getD i Pt.zero) (vs.getD ((i + 1) % n) Pt.zero)

/-- the non-removable vertices, in order -/
def keepers (vs : List Pt) : List Pt :=
  ((List.range vs.length).filter fun i => !removableAt vs i).map fun i => vs.getD i Pt.zero

theorem removableAt_eq_removable (vs : List Pt) (i : Nat) : removableAt vs i = removable vs i := rfl

theorem cleanStep_eq (vs : List Pt) : cleanStep vs =
    if vs.length < 3 then none else ((List.range vs.length).find? (removableAt vs)).map vs.eraseIdx := rfl

theorem cleanStep_none_iff (vs : List Pt) :
    cleanStep vs = none ↔ (vs.length < 3 ∨ ∀ i < vs.length, removableAt vs i = false) := by
  rw [cleanStep_eq]
  by_cases h : vs.length < 3
  · rw [if_pos h]
    exact ⟨fun _ => Or.inl h, fun _ => rfl⟩
  · rw [if_neg h, or_iff_right h]
    simp only [Option.map_eq_none_iff, List.find?_eq_none, List.mem_range, Bool.not_eq_true]

namespace CleanRot

/-- the test `X = 0 ∧ 0 < Y` (cross product zero, inner product positive) has the same answer for a positive multiple -/
theorem test_iff_of_pos_multiple (n m X Y X' Y' : Rat) (hn : 0 < n) (hm : 0 < m) (e1 : n * X' = m * X)
    (e2 : n * Y' = m * Y) : (X = 0 ∧ 0 < Y) ↔ (X' = 0 ∧ 0 < Y') := by
  rw [← mul_eq_zero_iff_left hm.ne' (b := X), ← mul_pos_iff_of_pos_left hm (b := Y), ← e1, ← e2,
    mul_eq_zero_iff_left hn.ne', mul_pos_iff_of_pos_left hn]

theorem norm_pos_of_inner_pos (a1 a2 b1 b2 : Rat) (h : 0 < a1 * b1 + a2 * b2) : 0 < b1 * b1 + b2 * b2 := by
  refine lt_of_le_of_ne (add_nonneg (mul_self_nonneg b1) (mul_self_nonneg b2)) fun h0 => ?_
  obtain ⟨h1, h2⟩ := mul_self_add_mul_self_eq_zero.mp h0.symm
  rw [h1, h2, mul_zero, mul_zero, add_zero] at h
  exact lt_irrefl 0 h

/-- `a ∥ b` same direction: `(a + b, c)` passes the test iff `(b, c)` does -/
theorem test_add_parallel_iff (a1 a2 b1 b2 c1 c2 : Rat) (h0 : a1 * b2 - a2 * b1 = 0) (h1 : 0 < a1 * b1 + a2 * b2) :
    (b1 * c2 - b2 * c1 = 0 ∧ 0 < b1 * c1 + b2 * c2) ↔
    ((a1 + b1) * c2 - (a2 + b2) * c1 = 0 ∧ 0 < (a1 + b1) * c1 + (a2 + b2) * c2) := by
  have hn := norm_pos_of_inner_pos a1 a2 b1 b2 h1
  apply test_iff_of_pos_multiple (b1 * b1 + b2 * b2) (a1 * b1 + a2 * b2 + (b1 * b1 + b2 * b2)) _ _ _ _ hn (by linarith)
  · have : (b1 * b1 + b2 * b2) * ((a1 + b1) * c2 - (a2 + b2) * c1)
        = (a1 * b1 + a2 * b2 + (b1 * b1 + b2 * b2)) * (b1 * c2 - b2 * c1)
          + (a1 * b2 - a2 * b1) * (b1 * c1 + b2 * c2) := by ring
    rw [this, h0, zero_mul, add_zero]
  · have : (b1 * b1 + b2 * b2) * ((a1 + b1) * c1 + (a2 + b2) * c2)
        = (a1 * b1 + a2 * b2 + (b1 * b1 + b2 * b2)) * (b1 * c1 + b2 * c2)
          - (a1 * b2 - a2 * b1) * (b1 * c2 - b2 * c1) := by ring
    rw [this, h0, zero_mul, sub_zero]

theorem removable3_eq_true (u v w : Pt) : removable3 u v w = true ↔
    ((v.x - u.x) * (w.y - v.y) - (v.y - u.y) * (w.x - v.x) = 0 ∧
      0 < (v.x - u.x) * (w.x - v.x) + (v.y - u.y) * (w.y - v.y)) := by
  unfold removable3
  rw [Bool.and_eq_true, decide_eq_true_iff, decide_eq_true_iff]
  simp only [Pt.cross, Pt.inner, Pt.sub_x, Pt.sub_y]

/-- `u` between `t` and `v` is dropped: the status of `v` does not change (new predecessor `t`) -/
theorem removable3_pred {t u v : Pt} (h : removable3 t u v = true) (w : Pt) : removable3 u v w = removable3 t v w := by
  rw [Bool.eq_iff_iff, removable3_eq_true, removable3_eq_true]
  rw [removable3_eq_true] at h
  have ex : v.x - t.x = (u.x - t.x) + (v.x - u.x) := by ring
  have ey : v.y - t.y = (u.y - t.y) + (v.y - u.y) := by ring
  rw [ex, ey]
  exact test_add_parallel_iff _ _ _ _ _ _ h.1 h.2

theorem removable3_symm (u v w : Pt) : removable3 u v w = removable3 w v u := by
  have hc : Pt.cross (v - w) (u - v) = - Pt.cross (v - u) (w - v) := by
    simp only [Pt.cross, Pt.sub_x, Pt.sub_y]; ring
  have hi : Pt.inner (v - w) (u - v) = Pt.inner (v - u) (w - v) := by
    simp only [Pt.inner, Pt.sub_x, Pt.sub_y]; ring
  simp only [removable3, hc, hi, neg_eq_zero]

/-- `v` between `u` and `w` is dropped: the status of `u` does not change (new successor `w`); the mirror image of
`removable3_pred` -/
theorem removable3_succ {u v w : Pt} (h : removable3 u v w = true) (t : Pt) : removable3 t u v = removable3 t u w := by
  rw [removable3_symm t u v, removable3_symm t u w]
  exact removable3_pred (by rwa [removable3_symm] at h) t

def keep1 (b : Bool) (v : Pt) : List Pt := bif b then [] else [v]

/-- "keepers, linear" -/
def kl (u : Pt) : List Pt → Pt → List Pt
  | [], _ => []
  | v :: t, w => keep1 (removable3 u v (t.headD w)) v ++ kl v t w

theorem kl_nil (u w : Pt) : kl u [] w = [] := rfl

theorem kl_cons (u v : Pt) (t : List Pt) (w : Pt) :
    kl u (v :: t) w = keep1 (removable3 u v (t.headD w)) v ++ kl v t w := rfl

theorem keep1_true (v : Pt) : keep1 true v = [] := rfl

theorem headD_append {α} (t l : List α) (w : α) : (t ++ l).headD w = t.headD (l.headD w) := by
  cases t <;> rfl

theorem headD_append_cons {α} (l : List α) (b : α) (r : List α) (d : α) : (l ++ b :: r).headD d = l.headD b :=
  headD_append l (b :: r) d

theorem getLastD_append_cons {α} (l : List α) (b : α) (r : List α) (d : α) :
    (l ++ b :: r).getLastD d = r.getLastD b := by
  rw [List.getLastD_eq_getLast?, List.getLast?_append_cons, List.getLast?_cons, Option.getD_some,
    List.getLastD_eq_getLast?]

theorem kl_append (u : Pt) (l1 l2 : List Pt) (w : Pt) :
    kl u (l1 ++ l2) w = kl u l1 (l2.headD w) ++ kl (l1.getLastD u) l2 w := by
  induction l1 generalizing u with
  | nil => rfl
  | cons v t ih =>
    rw [List.cons_append, kl_cons, kl_cons, ih, List.append_assoc, headD_append, List.getLastD_cons]

theorem kl_sublist (u : Pt) (l : List Pt) (w : Pt) : (kl u l w).Sublist l := by
  induction l generalizing u with
  | nil => simp [kl_nil]
  | cons v t ih =>
    rw [kl_cons]
    cases removable3 u v (t.headD w)
    · exact (ih v).cons_cons v
    · exact (ih v).trans (List.sublist_cons_self v t)

/-- only the first vertex looks at the left context -/
theorem kl_left (u u' : Pt) (l : List Pt) (w : Pt)
    (h : ∀ x, removable3 u (l.headD w) x = removable3 u' (l.headD w) x) : kl u l w = kl u' l w := by
  cases l with
  | nil => rfl
  | cons v t => exact congrArg (fun b => keep1 b v ++ kl v t w) (h _)

/-- only the last vertex looks at the right context -/
theorem kl_right (u : Pt) (l : List Pt) (w w' : Pt)
    (h : ∀ p, removable3 p (l.getLastD u) w = removable3 p (l.getLastD u) w') : kl u l w = kl u l w' := by
  rcases List.eq_nil_or_concat' l with rfl | ⟨q, z, rfl⟩
  · rfl
  · rw [List.getLastD_concat] at h
    rw [kl_append, kl_append, kl_cons, kl_cons]
    show _ ++ (keep1 (removable3 _ z w) z ++ _) = _ ++ (keep1 (removable3 _ z w') z ++ _)
    rw [h]
    rfl

/-- a removable vertex of a path may be erased: its two neighbours keep their status -/
theorem kl_erase (u : Pt) (l1 : List Pt) (v : Pt) (l2 : List Pt) (w : Pt)
    (h : removable3 (l1.getLastD u) v (l2.headD w) = true) : kl u (l1 ++ v :: l2) w = kl u (l1 ++ l2) w := by
  rw [kl_append, kl_append, kl_cons, h, keep1_true, List.nil_append]
  show kl u l1 v ++ kl v l2 w = _
  rw [kl_right u l1 v (l2.headD w) fun p => removable3_succ h p,
    kl_left v (l1.getLastD u) l2 w fun x => removable3_pred h x]

/-- the vertex before vertex `i` of the cycle `c` is entry `i` of `last :: c` -/
theorem getD_cyclic_pred (c : List Pt) (i : Nat) (hi : i < c.length) (d : Pt) :
    c.getD ((i + c.length - 1) % c.length) d = (c.getLastD d :: c).getD i d := by
  cases i with
  | zero =>
    rw [Nat.zero_add, Nat.mod_eq_of_lt (by omega), List.getD_cons_zero, List.getLastD_eq_getLast?,
      List.getLast?_eq_getElem?, List.getD_eq_getElem?_getD]
  | succ j =>
    rw [show j + 1 + c.length - 1 = j + c.length by omega, Nat.add_mod_right, Nat.mod_eq_of_lt (by omega),
      List.getD_cons_succ]

/-- the vertex after vertex `i` of the cycle `c` is entry `i + 1` of `c ++ [first]` -/
theorem getD_cyclic_succ (c : List Pt) (i : Nat) (hi : i < c.length) (d : Pt) :
    c.getD ((i + 1) % c.length) d = (c ++ [c.headD d]).getD (i + 1) d := by
  by_cases h : i + 1 < c.length
  · rw [Nat.mod_eq_of_lt h, List.getD_eq_getElem?_getD, List.getD_eq_getElem?_getD, List.getElem?_append_left h]
  · have e : i + 1 = c.length := by omega
    rw [e, Nat.mod_self, List.getD_eq_getElem?_getD, List.getD_eq_getElem?_getD, List.getElem?_concat_length,
      List.headD_eq_head?_getD, List.head?_eq_getElem?]
    rfl

/-- the vertex at a split of the cycle and its cyclic neighbours: the one bridge from the index form to the path form -/
theorem removableAt_append_length (l1 : List Pt) (v : Pt) (l2 : List Pt) :
    removableAt (l1 ++ v :: l2) l1.length = removable3 (l1.getLastD (l2.getLastD v)) v (l2.headD (l1.headD v)) := by
  have h : ∀ u w : Pt, removable3 ((u :: (l1 ++ v :: l2)).getD l1.length Pt.zero) ((l1 ++ v :: l2).getD l1.length Pt.zero)
      ((l1 ++ v :: l2 ++ [w]).getD (l1.length + 1) Pt.zero) = removable3 (l1.getLastD u) v (l2.headD w) := by
    -- entries `i`, `i + 1`, `i + 2` of `u :: l ++ [w]` at `i = l1.length`
    intro u w
    induction l1 generalizing u with
    | nil => cases l2 <;> rfl
    | cons a q ih => rw [List.getLastD_cons]; exact ih a
  have hi : l1.length < (l1 ++ v :: l2).length := by rw [List.length_append, List.length_cons]; omega
  rw [removableAt, getD_cyclic_pred _ _ hi, getD_cyclic_succ _ _ hi, h, getLastD_append_cons, headD_append_cons]

/-- `kl` in index form, for any test `R` of the indices that is `removable3` of the neighbours at every split -/
theorem kl_eq_filter (u : Pt) (l : List Pt) (w : Pt) (R : Nat → Bool)
    (hR : ∀ l1 v l2, l = l1 ++ v :: l2 → R l1.length = removable3 (l1.getLastD u) v (l2.headD w)) :
    kl u l w = ((List.range l.length).filter fun i => !R i).map fun i => l.getD i Pt.zero := by
  induction l generalizing u R with
  | nil => rfl
  | cons v t ih =>
    have h0 : R 0 = removable3 u v (t.headD w) := hR [] v t rfl
    rw [kl_cons, ih v (fun i => R (i + 1)) fun l1 x l2 e =>
        (hR (v :: l1) x l2 (congrArg _ e)).trans (by rw [List.getLastD_cons]),
      List.length_cons, List.range_succ_eq_map, List.filter_cons, List.filter_map, h0]
    cases removable3 u v (t.headD w)
    · rw [Bool.not_false, if_pos rfl, List.map_cons, List.map_map]
      rfl
    · rw [Bool.not_true, if_neg Bool.false_ne_true, List.map_map]
      rfl

theorem keepers_eq_kl (vs : List Pt) :
    keepers vs = kl (vs.getLastD Pt.zero) vs (vs.headD Pt.zero) := by
  refine (kl_eq_filter _ vs _ (removableAt vs) ?_).symm
  rintro l1 v l2 rfl
  rw [removableAt_append_length, getLastD_append_cons, headD_append_cons]

theorem keepers_sublist (vs : List Pt) : (keepers vs).Sublist vs := by
  rw [keepers_eq_kl]; exact kl_sublist _ _ _

theorem keepers_swap (l1 l2 : List Pt) :
    ∃ m, m ≤ (keepers (l1 ++ l2)).length ∧ keepers (l2 ++ l1) = rotateL (keepers (l1 ++ l2)) m := by
  cases l1 with
  | nil => exact ⟨0, Nat.zero_le _, by rw [List.append_nil, List.nil_append, rotateL_zero]⟩
  | cons a q =>
    cases l2 with
    | nil => exact ⟨0, Nat.zero_le _, by rw [List.append_nil, List.nil_append, rotateL_zero]⟩
    | cons b r =>
      have e1 : keepers ((a :: q) ++ b :: r)
          = kl (r.getLastD b) (a :: q) b ++ kl (q.getLastD a) (b :: r) a := by
        rw [keepers_eq_kl, kl_append, getLastD_append_cons, List.getLastD_cons]; rfl
      have e2 : keepers ((b :: r) ++ a :: q)
          = kl (q.getLastD a) (b :: r) a ++ kl (r.getLastD b) (a :: q) b := by
        rw [keepers_eq_kl, kl_append, getLastD_append_cons, List.getLastD_cons]; rfl
      rw [e1, e2]
      exact ⟨_, by rw [List.length_append]; exact Nat.le_add_right _ _, (rotateL_append_length _ _).symm⟩

theorem keepers_rotate (vs : List Pt) (k : Nat) :
    ∃ m, m ≤ (keepers vs).length ∧ keepers (rotateL vs k) = rotateL (keepers vs) m := by
  have := keepers_swap (vs.take k) (vs.drop k)
  rwa [List.take_append_drop] at this

/-- erasing the vertex `v` of the cycle `l1 ++ v :: l2`, removable between its cyclic neighbours (`hrem`; `hlen`: two other
vertices remain, so the neighbours are not `v` itself): `kl_erase` for the path, then the new last and first vertex as
outer neighbours; they differ from the old ones only when `v` was the last (`l2 = []`) or the first (`l1 = []`) vertex -/
theorem keepers_erase (l1 : List Pt) (v : Pt) (l2 : List Pt)
    (hrem : removable3 (l1.getLastD (l2.getLastD v)) v (l2.headD (l1.headD v)) = true)
    (hlen : 2 ≤ l1.length + l2.length) :
    keepers (l1 ++ l2) = keepers (l1 ++ v :: l2) := by
  rw [keepers_eq_kl (l1 ++ v :: l2), getLastD_append_cons, headD_append_cons, kl_erase _ _ _ _ _ hrem, keepers_eq_kl]
  refine (kl_left _ (l2.getLastD v) _ _ fun x => ?_).trans (kl_right _ _ _ (l1.headD v) fun p => ?_)
  · cases l2 with
    | cons b r => rw [getLastD_append_cons, List.getLastD_cons]
    | nil =>
      cases l1 with
      | nil => simp at hlen
      | cons a q =>
        rw [List.append_nil]
        exact (removable3_pred hrem x).symm
  · cases l1 with
    | cons a q => rfl
    | nil =>
      cases l2 with
      | nil => simp at hlen
      | cons b r => exact (removable3_succ hrem p).symm

/-- a step of the loop in path form -/
theorem cleanStep_some (vs vs' : List Pt) (h : cleanStep vs = some vs') :
    ∃ l1 v l2, vs = l1 ++ v :: l2 ∧ vs' = l1 ++ l2 ∧ 2 ≤ l1.length + l2.length ∧
      removable3 (l1.getLastD (l2.getLastD v)) v (l2.headD (l1.headD v)) = true := by
  rw [cleanStep_eq] at h
  split at h
  · exact absurd h (by simp)
  · rename_i h3
    obtain ⟨i, hi, rfl⟩ := Option.map_eq_some_iff.mp h
    have hlt := List.mem_range.mp (List.mem_of_find?_eq_some hi)
    have hr := List.find?_some hi
    obtain ⟨l1, v, l2, rfl, rfl⟩ : ∃ l1 v l2, vs = l1 ++ v :: l2 ∧ l1.length = i :=
      ⟨vs.take i, vs[i], vs.drop (i + 1),
        by rw [← List.drop_eq_getElem_cons hlt, List.take_append_drop],
        by rw [List.length_take]; omega⟩
    rw [removableAt_append_length] at hr
    rw [List.length_append, List.length_cons] at h3
    refine ⟨l1, v, l2, rfl, ?_, by omega, hr⟩
    rw [List.eraseIdx_append_of_length_le (Nat.le_refl _), Nat.sub_self]
    rfl

/-- nothing is removable iff every vertex is a keeper: `keepers vs` is a sublist of `vs`, equal to it iff of the same length -/
theorem cleanStep_none_iff_keepers (vs : List Pt) : cleanStep vs = none ↔ (vs.length < 3 ∨ keepers vs = vs) := by
  have h : keepers vs = vs ↔ (keepers vs).length = vs.length :=
    ⟨congrArg List.length, (keepers_sublist vs).eq_of_length⟩
  have hk : (keepers vs).length = vs.length ↔ ∀ i ∈ List.range vs.length, (!removableAt vs i) = true := by
    rw [← List.length_filter_eq_length_iff, List.length_range, keepers, List.length_map]
  rw [cleanStep_none_iff, h, hk]
  simp only [List.mem_range, Bool.not_eq_true']

/-- every step keeps `keepers`; when the fuel is used up the list is no longer than its sublist of keepers -/
theorem cleanCycle_eq_keepers (fuel : Nat) (vs : List Pt)
    (hf : vs.length ≤ fuel + (keepers vs).length) (h3 : 3 ≤ (keepers vs).length) :
    cleanCycle fuel vs = keepers vs := by
  induction fuel generalizing vs with
  | zero => exact ((keepers_sublist vs).eq_of_length_le (by simpa using hf)).symm
  | succ fuel ih =>
    have hle := (keepers_sublist vs).length_le
    rw [cleanCycle]
    cases hc : cleanStep vs with
    | none =>
      rcases (cleanStep_none_iff_keepers vs).mp hc with h | h
      · omega
      · exact h.symm
    | some vs' =>
      obtain ⟨l1, v, l2, rfl, rfl, hlen, hr⟩ := cleanStep_some _ _ hc
      have hk := keepers_erase l1 v l2 hr hlen
      rw [← hk]
      refine ih _ ?_ (hk ▸ h3)
      rw [hk, List.length_append]
      rw [List.length_append, List.length_cons] at hf
      omega

end CleanRot
open CleanRot

/-- "no removable vertex" is invariant under rotation: the keepers of the rotated cycle are a rotation of all vertices, and
a sublist of the rotated cycle of full length -/
theorem cleanStep_rotate (vs : List Pt) (k : Nat) (h : cleanStep vs = none) : cleanStep (rotateL vs k) = none := by
  rw [cleanStep_none_iff_keepers] at h ⊢
  rw [rotateL_length]
  refine h.imp_right fun hk => ?_
  obtain ⟨m, _, hm⟩ := keepers_rotate vs k
  refine (keepers_sublist _).eq_of_length ?_
  rw [hm, hk, rotateL_length, rotateL_length]

theorem eqJ_iff (a b : Jordan) : eqJ a b = true ↔ canonJ a = canonJ b := by
  unfold eqJ; exact beq_iff_eq

theorem cycle_fromVertices (vs : List Pt) : (Jordan.fromVertices vs).cycle = vs :=
  Geom.points0_fromVertices vs

theorem cleanCycle_of_none (n : Nat) (vs : List Pt) (h : cleanStep vs = none) : cleanCycle n vs = vs := by
  cases n with
  | zero => rfl
  | succ n => simp [cleanCycle, h]

theorem canonJ_fromVertices (vs : List Pt) (h : cleanStep vs = none) :
    canonJ (Jordan.fromVertices vs) = canonCycle vs := by
  unfold canonJ
  rw [cycle_fromVertices, cleanCycle_of_none _ _ h]

theorem canonJ_fromVertices_keepers (vs : List Pt) (h3 : 3 ≤ (keepers vs).length) :
    canonJ (Jordan.fromVertices vs) = canonCycle (keepers vs) := by
  unfold canonJ
  rw [cycle_fromVertices, Geom.length_fromVertices, cleanCycle_eq_keepers vs.length vs (Nat.le_add_right _ _) h3]

theorem eqJ_rotate_all (vs : List Pt) (hnd : vs.Nodup) (h3 : 3 ≤ (keepers vs).length) (k : Nat)
    (hk : k ≤ vs.length) :
    eqJ (Jordan.fromVertices (rotateL vs k)) (Jordan.fromVertices vs) = true := by
  obtain ⟨m, _, hrot⟩ := keepers_rotate vs k
  have h3' : 3 ≤ (keepers (rotateL vs k)).length := by
    rw [hrot, rotateL_length]; exact h3
  rw [eqJ_iff, canonJ_fromVertices_keepers _ h3', canonJ_fromVertices_keepers _ h3, hrot,
    canonCycle_rotate _ ((keepers_sublist vs).nodup hnd) m]

section tests
/-- a 3×3 square with two extra vertices on the bottom side and one on the right side -/
private def sq : List Pt := [⟨0,0⟩, ⟨1,0⟩, ⟨2,0⟩, ⟨3,0⟩, ⟨3,1⟩, ⟨3,3⟩, ⟨0,3⟩]
example : keepers sq = [⟨0,0⟩, ⟨3,0⟩, ⟨3,3⟩, ⟨0,3⟩] := by decide +kernel
example : ((List.range 8).all fun k =>
    cleanCycle (rotateL sq k).length (rotateL sq k) == keepers (rotateL sq k)) = true := by decide +kernel
example : ((List.range 8).all fun k =>
    eqJ (Jordan.fromVertices (rotateL sq k)) (Jordan.fromVertices sq)) = true := by decide +kernel
end tests

end ShapeVerif
