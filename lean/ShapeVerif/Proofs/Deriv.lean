/- `derivate()` is the derivative, for every degree.  By `coordPoly_eq` the power-basis coefficients of a control polygon
are `C(n,k) Δᵏc₀`; the control values of `derivate()` are `n Δc`, so its coefficients are `C(n-1,k) n Δᵏ⁺¹c₀`, and
`(k+1) C(n,k+1) = n C(n-1,k)` makes them the formal derivative. -/
import ShapeVerif.Proofs.Bezier

namespace ShapeVerif
open Finset

theorem length_derivCoord (cs : List Rat) : (derivCoord cs).length = cs.length - 1 := by
  rw [derivCoord, List.length_map, List.length_zip, List.length_tail, Nat.min_eq_right (Nat.sub_le _ _)]

theorem seq_derivCoord (cs : List Rat) (i : Nat) (hi : i + 1 < cs.length) :
    seq (derivCoord cs) i = ((cs.length - 1 : Nat) : Rat) * (seq cs (i + 1) - seq cs i) := by
  have h2 : i < (cs.zip cs.tail).length := by rw [List.length_zip, List.length_tail]; omega
  simp only [seq, derivCoord, List.getD_eq_getElem?_getD, List.getElem?_map, List.getElem?_eq_getElem h2,
    List.getElem?_eq_getElem hi, List.getElem?_eq_getElem (Nat.lt_of_succ_lt hi), Option.map_some, Option.getD_some,
    List.getElem_zip, List.getElem_tail]

theorem coordPoly_derivCoord (cs : List Rat) (h2 : 2 ≤ cs.length) :
    coordPoly (derivCoord cs) = pderiv (coordPoly cs) := by
  obtain ⟨m, hm⟩ := Nat.exists_eq_add_of_le' h2
  rw [coordPoly_eq, coordPoly_eq, length_derivCoord, hm, pderiv_map_range]
  refine List.map_congr_left fun k hk => ?_
  have hk' : k < m + 1 := List.mem_range.mp hk
  have e : ((shiftE - 1) ^ k) (seq (derivCoord cs)) 0 = ((m + 1 : Nat) : Rat) * ((shiftE - 1) ^ (k + 1)) (seq cs) 0 := by
    rw [diff_pow_congr (g := (((m + 1 : Nat) : Rat)) • (shiftE - 1) (seq cs)), map_smul, pow_succ, Module.End.mul_apply]
    · rfl
    · intro i hi
      rw [seq_derivCoord cs i (by omega), hm]; rfl
  -- `(m + 1) C(m, k) = C(m + 1, k + 1) (k + 1)`
  rw [e, show m + 2 - 1 = m + 1 from rfl, Nat.add_sub_cancel, ← mul_assoc, ← mul_assoc, ← Nat.cast_mul, ← Nat.cast_mul,
    Nat.mul_comm (m.choose k), Nat.add_one_mul_choose_eq, Nat.mul_comm]

theorem evalCoord_singleton_zero (t : Rat) : evalCoord [0] t = 0 := by
  simp [evalCoord, canonCoefs, canonCoef, horner]

theorem pderiv_short (cs : List Rat) (h : cs.length ≤ 1) : pderiv (coordPoly cs) = [] := by
  rw [coordPoly_eq, show cs.length - 1 = 0 by omega]; rfl

theorem deriv_is_derivative (cs : List Rat) (t : Rat) :
    evalCoord (derivCoord cs) t = peval (pderiv (coordPoly cs)) t := by
  by_cases h2 : 2 ≤ cs.length
  · rw [← peval_coordPoly, coordPoly_derivCoord cs h2]
  · have e : derivCoord cs = [] := List.length_eq_zero_iff.mp (by rw [length_derivCoord]; omega)
    rw [pderiv_short cs (by omega), e, evalCoord_nil]; rfl

theorem derivSeg_map (c : Pt → Rat) (hc : ∀ k a b, c (Pt.smul k (b - a)) = k * (c b - c a)) (s : Seg)
    (h : ¬ s.length ≤ 1) : (derivSeg s).map c = derivCoord (s.map c) := by
  unfold derivSeg derivCoord
  simp only [h, if_false, List.length_map, List.map_map, ← List.map_tail, List.zip_map]
  exact List.map_congr_left fun p _ => hc _ _ _

theorem evalCoord_derivSeg (c : Pt → Rat) (hc : ∀ k a b, c (Pt.smul k (b - a)) = k * (c b - c a)) (hc0 : c Pt.zero = 0)
    (s : Seg) (t : Rat) : evalCoord ((derivSeg s).map c) t = peval (pderiv (coordPoly (s.map c))) t := by
  by_cases h : s.length ≤ 1
  · rw [pderiv_short _ (by simpa using h)]
    simp only [derivSeg, h, if_true, List.map_cons, List.map_nil, hc0]
    exact evalCoord_singleton_zero t
  · rw [derivSeg_map c hc s h, deriv_is_derivative]

/-- "`derivate()` is the derivative" for the ordinate of segment `s` -/
def DerivOK (s : Seg) : Prop := ∀ t, (evalSeg (derivSeg s) t).y = peval (pderiv (coordPoly s.ys)) t

theorem derivSeg_derivOK (s : Seg) : DerivOK s :=
  evalCoord_derivSeg (·.y) (fun _ _ _ => rfl) rfl s

/-- `Σᵢ f xᵢ (o + i)` over a list -/
private def wsum {α : Type} (l : List α) (o : Nat) (f : α → Nat → Rat) : Rat :=
  ((l.zipIdx o).map fun p => f p.1 p.2).sum

private theorem wsum_nil {α : Type} (o : Nat) (f : α → Nat → Rat) : wsum [] o f = 0 := rfl

end ShapeVerif
