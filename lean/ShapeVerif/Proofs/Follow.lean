/- The loops of Model/Follow.lean, one section each, in the order of the model, for every oracle.  A loop that IS a library
function is stated as that equation or normal form and the library's lemmas are used (`pursuePath` returns an `orbit` of
`pursueStep`, `pursueAll` is `List.map`, `filterRotations` is a `foldl` read from its last turn, `findUnionFrom` is
`List.findSome?` over `List.range'`).  A fuelled loop has ONE statement, about a run with enough fuel (`pursuePathFuel_spec`,
`cleanLoopFuel_spec`) or, where the model also has the function by well-founded recursion, the equation that enough fuel
computes it (`growFuel_eq`, `divideConnectedsFuel_eq`; the invariant of `grow` is `grow_spec` in the model file, where the
termination of `divideConnecteds` needs it). -/
import ShapeVerif.Model.Follow
import Mathlib.Data.List.Rotate

namespace ShapeVerif.Follow
open ShapeVerif

/-! ## `pursue_path` -/

/-- the first `n` points of the orbit of `a` under `f` (`List.iterate f a n`), in the form on which core's lemmas on `List.map`
and `List.range` say its length, members and entries; Mathlib's lemmas on `List.iterate` live in a module that brings algebra on
`ℕ` and with it other instances into the statements of C01b -/
abbrev orbit {α} (f : α → α) (a : α) (n : Nat) : List α := (List.range n).map fun i => f^[i] a

theorem orbit_succ {α} (f : α → α) (a : α) (n : Nat) : orbit f a (n + 1) = orbit f a n ++ [f^[n] a] := by
  rw [orbit, List.range_succ, List.map_append, List.map_singleton]

theorem orbit_head? {α} (f : α → α) (a : α) (n : Nat) : (orbit f a (n + 1)).head? = some a := by
  rw [orbit, List.head?_map, List.head?_range, if_neg (Nat.succ_ne_zero n)]; rfl

theorem orbit_getLast? {α} (f : α → α) (a : α) (n : Nat) : (orbit f a (n + 1)).getLast? = some (f^[n] a) := by
  rw [orbit_succ, List.getLast?_append, List.getLast?_singleton, Option.some_or]

/-- all pairs `(k + i, s)` with `s < ns[i]` -/
def validPairsFrom (k : Nat) (ns : List Nat) : List Idx :=
  (ns.zipIdx k).flatMap fun nj => (List.range nj.1).map fun s => (nj.2, s)

theorem validPairsFrom_length (k : Nat) (ns : List Nat) : (validPairsFrom k ns).length = ns.sum := by
  simp only [validPairsFrom, List.length_flatMap, List.length_map, List.length_range]
  exact congrArg List.sum (List.zipIdx_map_fst k ns)

theorem validIdx_mem (lens : List Nat) (p : Idx) (h : validIdx lens p) : p ∈ validPairsFrom 0 lens := by
  obtain ⟨n, h1, h2⟩ := h
  exact List.mem_flatMap.2
    ⟨(n, p.1), List.mem_zipIdx_iff_getElem?.2 h1, List.mem_map.2 ⟨p.2, List.mem_range.2 h2, rfl⟩⟩

/-- pigeonhole: a duplicate-free list of existing segments is not longer than the number of segments -/
theorem nodup_valid_length_le (lens : List Nat) (m : List Idx) (hn : m.Nodup)
    (hv : ∀ p ∈ m, validIdx lens p) : m.length ≤ lens.sum := by
  have := List.Nodup.length_le_of_subset hn (fun p hp => validIdx_mem lens p (hv p hp))
  rwa [validPairsFrom_length] at this

/-- curve `j` exists and has at least one segment (so that l.178 `index_segment %= len(...)` does not raise) -/
def CurveOK (lens : List Nat) (j : Nat) : Prop := ∃ n, lens[j]? = some n ∧ 0 < n

/-- hypothesis on the oracle: from an existing segment, `possibles[0]` designates an existing non-empty curve -/
def JumpOK (lens : List Nat) (jump : Jump) : Prop :=
  ∀ j s j' os, validIdx lens (j, s) → jump j s = some (j', os) → CurveOK lens j'

theorem validIdx_curveOK {lens : List Nat} {p : Idx} (h : validIdx lens p) : CurveOK lens p.1 := by
  obtain ⟨n, h1, h2⟩ := h
  exact ⟨n, h1, by omega⟩

theorem normIdx_valid {lens : List Nat} {p : Idx} (h : CurveOK lens p.1) :
    validIdx lens (normIdx lens p) := by
  obtain ⟨n, h1, h2⟩ := h
  refine ⟨n, by simp [normIdx, h1], ?_⟩
  simp only [normIdx, h1, Option.getD_some]
  exact Nat.mod_lt _ h2

theorem pursueNext_curveOK {lens : List Nat} {jump : Jump} (hj : JumpOK lens jump) {cur : Idx}
    (h : validIdx lens cur) : CurveOK lens (pursueNext jump cur).1 := by
  unfold pursueNext
  split
  · exact validIdx_curveOK (p := cur) h
  · rename_i j' s' he; exact hj cur.1 cur.2 j' (some s') h he
  · rename_i j' he; exact hj cur.1 cur.2 j' none h he

theorem pursueStep_valid {lens : List Nat} {jump : Jump} (hj : JumpOK lens jump) {cur : Idx}
    (h : validIdx lens cur) : validIdx lens (pursueStep lens jump cur) :=
  normIdx_valid (pursueNext_curveOK hj h)

/-- the pair tested at l.180 is the normalised pair -/
theorem normIdx_eq {lens : List Nat} {p : Idx} {n : Nat} (hn : lens[p.1]? = some n) :
    normIdx lens p = (p.1, p.2 % n) := by
  simp [normIdx, hn]

/-- the orbit of `x0` under the turn of the loop, `n` entries long, has no repeat and stays on existing segments:
the loop invariant of `pursue_path` on the list built so far, and what it returns -/
def PursueInv (lens : List Nat) (jump : Jump) (x0 : Idx) (n : Nat) : Prop :=
  (orbit (pursueStep lens jump) x0 n).Nodup ∧ ∀ p ∈ orbit (pursueStep lens jump) x0 n, validIdx lens p

theorem PursueInv.succ {lens : List Nat} {jump : Jump} {x0 : Idx} {n : Nat} (inv : PursueInv lens jump x0 n)
    (hv : validIdx lens ((pursueStep lens jump)^[n] x0))
    (hmem : (pursueStep lens jump)^[n] x0 ∉ orbit (pursueStep lens jump) x0 n) :
    PursueInv lens jump x0 (n + 1) := by
  rw [PursueInv, orbit_succ]
  exact ⟨List.nodup_append.2 ⟨inv.1, List.nodup_singleton _, fun a ha b hb => by
      rw [List.mem_singleton.1 hb]; exact fun e => hmem (e ▸ ha)⟩,
    List.forall_mem_append.2 ⟨inv.2, List.forall_mem_singleton.2 hv⟩⟩

/-- a run of the loop from the list `orbit x0 n`, with fuel for more turns than there are segments left.  The loop
carries the pair `p` BEFORE `index_segment %= len` (l.178 normalises it at the top of the next turn), so the statement is
about a `p` with `normIdx p` the next orbit point, not about the orbit point itself. -/
theorem pursuePathFuel_spec (lens : List Nat) (jump : Jump) (x0 : Idx) : ∀ (fuel n : Nat) (p : Idx),
    PursueInv lens jump x0 n → normIdx lens p = (pursueStep lens jump)^[n] x0 → lens.sum < n + fuel →
    (∀ k, pursuePathFuel lens jump (fuel + k) p (orbit (pursueStep lens jump) x0 n) =
      pursuePathFuel lens jump fuel p (orbit (pursueStep lens jump) x0 n)) ∧
    match pursuePathFuel lens jump fuel p (orbit (pursueStep lens jump) x0 n) with
    | .ok r => ∃ m, r = orbit (pursueStep lens jump) x0 (m + 1) ∧ PursueInv lens jump x0 (m + 1) ∧
        (pursueStep lens jump)^[m + 1] x0 ∈ r
    | .error e => e ≠ .outOfFuel ∧ ¬ (JumpOK lens jump ∧ CurveOK lens p.1)
  | 0, n, p, inv, _, hf => by
    have := nodup_valid_length_le lens _ inv.1 inv.2
    rw [List.length_map, List.length_range] at this; omega
  | fuel + 1, n, p, inv, hp, hf => by
    have hk : ∀ k, fuel + 1 + k = (fuel + k) + 1 := fun k => Nat.add_right_comm _ _ _
    simp only [hk, pursuePathFuel]
    cases hn : lens[p.1]? with
    | none => exact ⟨fun _ => rfl, nofun, fun ⟨_, n, h, _⟩ => by rw [hn] at h; cases h⟩
    | some len =>
      by_cases hn0 : len = 0
      · simp only [hn0, if_true]
        exact ⟨fun _ => trivial, nofun, fun ⟨_, n', h, hpos⟩ => by rw [hn] at h; cases h; omega⟩
      · have hv : validIdx lens (normIdx lens p) := normIdx_valid ⟨len, hn, Nat.pos_of_ne_zero hn0⟩
        simp only [hn0, if_false, ← normIdx_eq hn, hp]
        rw [hp] at hv
        by_cases hmem : (pursueStep lens jump)^[n] x0 ∈ orbit (pursueStep lens jump) x0 n
        · simp only [hmem, if_true]
          cases n with
          | zero => exact absurd hmem List.not_mem_nil
          | succ m => exact ⟨fun _ => trivial, m, rfl, inv, hmem⟩
        · simp only [hmem, if_false, ← orbit_succ]
          have ih := pursuePathFuel_spec lens jump x0 fuel (n + 1) (pursueNext jump ((pursueStep lens jump)^[n] x0))
            (inv.succ hv hmem) (Function.iterate_succ_apply' (pursueStep lens jump) n x0).symm (by omega)
          refine ⟨ih.1, ?_⟩
          have ih2 := ih.2
          split at ih2
          · exact ih2
          · exact ⟨ih2.1, fun ⟨hj, _⟩ => ih2.2 ⟨hj, pursueNext_curveOK hj hv⟩⟩

/-- `pursue_path` itself: fuel `lens.sum + 1`, empty list -/
theorem pursuePath_spec (lens : List Nat) (jump : Jump) (start : Idx) :
    (∀ k, pursuePathFuel lens jump (lens.sum + 1 + k) start [] = pursuePath lens jump start) ∧
    match pursuePath lens jump start with
    | .ok r => ∃ n, r = orbit (pursueStep lens jump) (normIdx lens start) (n + 1) ∧
        PursueInv lens jump (normIdx lens start) (n + 1) ∧
        (pursueStep lens jump)^[n + 1] (normIdx lens start) ∈ r
    | .error e => e ≠ .outOfFuel ∧ ¬ (JumpOK lens jump ∧ CurveOK lens start.1) :=
  pursuePathFuel_spec lens jump (normIdx lens start) (lens.sum + 1) 0 start ⟨List.nodup_nil, nofun⟩ rfl (by omega)

theorem pursuePath_ne_outOfFuel (lens : List Nat) (jump : Jump) (start : Idx) :
    pursuePath lens jump start ≠ .error .outOfFuel := by
  intro h
  have := (pursuePath_spec lens jump start).2
  rw [h] at this
  exact this.1 rfl

theorem pursuePath_ok {lens : List Nat} {jump : Jump} (hj : JumpOK lens jump) {start : Idx}
    (hs : CurveOK lens start.1) : ∃ r, pursuePath lens jump start = .ok r := by
  have := (pursuePath_spec lens jump start).2
  cases h : pursuePath lens jump start with
  | ok r => exact ⟨r, rfl⟩
  | error e => rw [h] at this; exact absurd ⟨hj, hs⟩ this.2

theorem pursuePath_inv {lens : List Nat} {jump : Jump} {start : Idx} {r : List Idx}
    (h : pursuePath lens jump start = .ok r) :
    ∃ n, r = orbit (pursueStep lens jump) (normIdx lens start) (n + 1) ∧
      PursueInv lens jump (normIdx lens start) (n + 1) ∧
      pursueStep lens jump ((pursueStep lens jump)^[n] (normIdx lens start)) ∈ r := by
  have := (pursuePath_spec lens jump start).2
  rw [h] at this
  simpa only [Function.iterate_succ_apply'] using this

/-- if the step is injective on existing segments, an orbit that comes back into itself comes back to its FIRST
point -/
theorem closes_at_head {lens : List Nat} {jump : Jump} {x0 : Idx} {n : Nat} (inv : PursueInv lens jump x0 (n + 1))
    (hinj : ∀ a b, validIdx lens a → validIdx lens b →
      pursueStep lens jump a = pursueStep lens jump b → a = b)
    (hc : pursueStep lens jump ((pursueStep lens jump)^[n] x0) ∈ orbit (pursueStep lens jump) x0 (n + 1)) :
    pursueStep lens jump ((pursueStep lens jump)^[n] x0) = x0 := by
  obtain ⟨i, hi, e⟩ := List.mem_map.1 hc
  rw [List.mem_range] at hi
  cases i with
  | zero => exact e.symm
  | succ k =>
    rw [Function.iterate_succ_apply'] at e
    have hn : n ∈ List.range (n + 1) := List.mem_range.2 n.lt_succ_self
    have hk : k ∈ List.range (n + 1) := List.mem_range.2 (by omega)
    have := List.inj_on_of_nodup_map inv.1 hn hk
      (hinj _ _ (inv.2 _ (List.mem_map_of_mem hn)) (inv.2 _ (List.mem_map_of_mem hk)) e.symm)
    omega

/-! ## `is_rotation` -/

/-- the comparison loop of l.219–222 succeeds iff `b` is `a` rotated by `rot` -/
theorem rotCheck_iff {α} [DecidableEq α] (a b : List α) (rot : Nat) (hlen : a.length = b.length) :
    ((List.range b.length).all fun i => decide (b[i]? = a[(i + rot) % b.length]?)) = true ↔
      b = a.rotate rot := by
  simp only [List.all_eq_true, List.mem_range, decide_eq_true_iff, List.ext_getElem?_iff]
  refine forall_congr' fun i => ?_
  by_cases hi : i < b.length
  · rw [List.getElem?_rotate (by omega), hlen]
    exact ⟨fun h => h hi, fun h _ => h⟩
  · rw [List.getElem?_eq_none (l := a.rotate rot) (by rw [List.length_rotate]; omega)]
    exact ⟨fun _ => List.getElem?_eq_none (by omega), fun _ h => absurd h hi⟩

/-- l.212–217 with `other` empty: the `for` loop ends without `break` -/
theorem isRotation_nil_right {α} [DecidableEq α] (a : List α) : isRotation a [] = false := by
  unfold isRotation; split <;> rfl

/-- exactly what `is_rotation` computes on a non-empty `other` -/
theorem isRotation_cons {α} [DecidableEq α] (a : List α) (b0 : α) (t : List α) :
    isRotation a (b0 :: t) = true ↔
      a.length = (b0 :: t).length ∧ a.idxOf b0 < a.length ∧ b0 :: t = a.rotate (a.idxOf b0) := by
  unfold isRotation
  by_cases hlen : a.length = (b0 :: t).length
  · rw [if_neg (not_not.2 hlen)]
    dsimp only
    by_cases hr : a.idxOf b0 < a.length
    · rw [if_pos hr, rotCheck_iff a (b0 :: t) _ hlen]
      exact ⟨fun h => ⟨hlen, hr, h⟩, fun h => h.2.2⟩
    · rw [if_neg hr]
      exact ⟨nofun, fun h => absurd h.2.1 hr⟩
  · rw [if_pos hlen]
    exact ⟨nofun, fun h => absurd h.1 hlen⟩

theorem isRotation_complete {α} [DecidableEq α] {a : List α} (hn : a.Nodup) (hne : a ≠ []) (k : Nat) :
    isRotation a (a.rotate k) = true := by
  have hpos : 0 < a.length := List.length_pos_of_ne_nil hne
  have hk : k % a.length < a.length := Nat.mod_lt _ hpos
  have h0 : (a.rotate k)[0]? = some a[k % a.length] := by
    rw [List.getElem?_rotate hpos, Nat.zero_add, List.getElem?_eq_getElem hk]
  have hlen := List.length_rotate a k
  cases hb : a.rotate k with
  | nil => rw [hb] at h0; simp at h0
  | cons b0 t =>
    rw [hb] at h0 hlen; simp at h0; subst h0
    rw [isRotation_cons, hn.idxOf_getElem _ hk, List.rotate_mod, hb]
    exact ⟨hlen.symm, hk, rfl⟩

/-! ## `filter_rotations` -/

/-- the loop of l.235–240, read from its last turn (`List.foldl_concat`): what is kept is kept in order, no kept line
answers `is_rotation` to an earlier kept one, and every line is kept or answers it to a kept one -/
theorem filterRotations_kept {α} [DecidableEq α] (matrix : List (List α)) :
    (filterRotations matrix).Sublist matrix ∧
    (filterRotations matrix).Pairwise (fun x y => isRotation y x = false) ∧
    ∀ line ∈ matrix, line ∈ filterRotations matrix ∨ ∃ m ∈ filterRotations matrix, isRotation line m = true := by
  induction matrix using List.reverseRecOn with
  | nil => exact ⟨.slnil, .nil, nofun⟩
  | append_singleton ms line ih =>
    obtain ⟨i1, i2, i3⟩ := ih
    rw [filterRotations, List.foldl_concat, ← filterRotations]
    by_cases hany : (filterRotations ms).any (fun fline => isRotation line fline) = true
    · rw [if_pos hany]
      refine ⟨i1.trans (List.sublist_append_left _ _), i2, fun l hl => ?_⟩
      rcases List.mem_append.1 hl with hl | hl
      · exact i3 l hl
      · rw [List.mem_singleton.1 hl]; exact Or.inr (List.any_eq_true.1 hany)
    · rw [if_neg hany]
      refine ⟨i1.append_right [line], ?_, fun l hl => ?_⟩
      · rw [List.pairwise_append]
        refine ⟨i2, List.pairwise_singleton _ _, fun x hx y hy => ?_⟩
        rw [List.mem_singleton.1 hy]
        exact Bool.eq_false_iff.2 fun hxy => hany (List.any_eq_true.2 ⟨x, hx, hxy⟩)
      · rcases List.mem_append.1 hl with hl | hl
        · exact (i3 l hl).imp (List.mem_append_left _) fun ⟨m, hm, hr⟩ => ⟨m, List.mem_append_left _ hm, hr⟩
        · exact Or.inl (List.mem_append_right _ hl)

/-! ## `follow_path` -/

/-- l.273–275 is `map`, stopped at the first exception -/
theorem pursueAll_spec (lens : List Nat) (jump : Jump) : ∀ starts : List Idx,
    match pursueAll lens jump starts with
    | .ok ms => starts.map (pursuePath lens jump) = ms.map .ok
    | .error e => .error e ∈ starts.map (pursuePath lens jump)
  | [] => rfl
  | p :: ps => by
    have ih := pursueAll_spec lens jump ps
    rw [pursueAll, List.map_cons]
    cases pursuePath lens jump p with
    | error e => exact List.mem_cons_self
    | ok m =>
      dsimp only
      cases hps : pursueAll lens jump ps with
      | error e => rw [hps] at ih; exact List.mem_cons_of_mem _ ih
      | ok ms => rw [hps] at ih; exact congrArg _ ih

theorem followPath_spec (lens : List Nat) (jump : Jump) (starts : List Idx) :
    match followPath lens jump starts with
    | .ok res => ∃ ms, starts.map (pursuePath lens jump) = ms.map .ok ∧ res = filterRotations ms
    | .error e => .error e ∈ starts.map (pursuePath lens jump) := by
  have h := pursueAll_spec lens jump starts
  rw [followPath]
  cases hps : pursueAll lens jump starts with
  | error e => rw [hps] at h; exact h
  | ok ms => rw [hps] at h; exact ⟨ms, h, rfl⟩

/-! ## `DivideConnecteds` -/

section Divide
variable {α β : Type} [LE β] [DecidableRel (α := β) (· ≤ ·)] (key : α → β) (compatible : α → α → Bool)

theorem popMax_max (htotal : ∀ a b : β, a ≤ b ∨ b ≤ a) (htrans : ∀ a b c : β, a ≤ b → b ≤ c → a ≤ c)
    (l : List α) (m : α) (rest : List α) (h : popMax key l = some (m, rest)) : ∀ x ∈ l, key x ≤ key m := by
  fun_induction popMax key l generalizing m rest with
  | case1 => cases h
  | case2 x xs hp =>
    cases h; rw [(popMax_eq_none key xs).1 hp]
    exact List.forall_mem_singleton.2 ((htotal _ _).elim id id)
  | case3 x xs y ys hp hle ih =>
    cases h
    exact List.forall_mem_cons.2 ⟨(htotal _ _).elim id id, fun z hz => htrans _ _ _ (ih y ys hp z hz) hle⟩
  | case4 x xs y ys hp hle ih =>
    cases h
    exact List.forall_mem_cons.2 ⟨(htotal _ _).resolve_right hle, ih y ys hp⟩

theorem divideConnecteds_nil : divideConnecteds key compatible ([] : List α) = [] := by
  rw [divideConnecteds]; simp

theorem divideConnecteds_of_ne_nil {l : List α} (h : l ≠ []) :
    divideConnecteds key compatible l =
      (grow key compatible l [] []).1 :: divideConnecteds key compatible (grow key compatible l [] []).2 := by
  rw [divideConnecteds]; simp [h]

theorem grow_top {l : List α} (h : l ≠ []) :
    (grow key compatible l [] []).1 ≠ [] ∧ (grow key compatible l [] []).2.length < l.length := by
  have h1 := grow_length key compatible l [] []
  have h2 := h1.2.1 h
  have h3 := h1.1
  simp only [List.length_nil] at h2 h3
  exact ⟨List.ne_nil_of_length_pos h2, by omega⟩

theorem divideConnecteds_spec (l : List α) :
    (divideConnecteds key compatible l).flatten.Perm l ∧
    (∀ g ∈ divideConnecteds key compatible l, g ≠ []) ∧
    (divideConnecteds key compatible l).length ≤ l.length ∧
    (∀ g ∈ divideConnecteds key compatible l, g.Pairwise (fun a b => compatible b a = true)) := by
  induction l using divideConnecteds.induct key compatible with
  | case1 => rw [divideConnecteds_nil]; simp
  | case2 l h ih =>
    rw [divideConnecteds_of_ne_nil key compatible h]
    obtain ⟨t1, t2⟩ := grow_top key compatible h
    obtain ⟨i1, i2, i3, i4⟩ := ih
    obtain ⟨hp, _, hg⟩ := grow_spec key compatible l [] []
    have hg := hg .nil nofun
    refine ⟨?_, List.forall_mem_cons.mpr ⟨t1, i2⟩, ?_, List.forall_mem_cons.mpr ⟨hg, i4⟩⟩
    · rw [List.flatten_cons]
      refine (List.Perm.append_left _ i1).trans ?_
      simpa using hp
    · rw [List.length_cons]; omega

theorem growFuel_eq : ∀ (fuel : Nat) (simples connected externals : List α), simples.length + 1 ≤ fuel →
    growFuel key compatible fuel simples connected externals =
      some (grow key compatible simples connected externals) := by
  intro fuel
  induction fuel with
  | zero => intro s c e h; omega
  | succ f ih =>
    intro s c e h
    unfold growFuel
    cases hp : popMax key s with
    | none => simp only []; rw [grow_none _ _ _ _ _ hp]
    | some mr =>
      obtain ⟨m, rest⟩ := mr
      simp only []
      rw [grow_some _ _ _ _ _ m rest hp]
      apply ih
      have h1 := popMax_length key s m rest hp
      have h2 := splitInternal_length compatible (c ++ [m]) rest
      omega

theorem divideConnectedsFuel_eq : ∀ (fuel : Nat) (l : List α), l.length + 1 ≤ fuel →
    divideConnectedsFuel key compatible fuel l = some (divideConnecteds key compatible l) := by
  intro fuel
  induction fuel with
  | zero => intro l h; omega
  | succ f ih =>
    intro l h
    unfold divideConnectedsFuel
    by_cases hl : l = []
    · subst hl; simp [divideConnecteds_nil]
    · have he : l.isEmpty = false := by cases l <;> simp_all
      rw [he]
      simp only [Bool.false_eq_true, if_false]
      rw [growFuel_eq key compatible _ _ _ _ (Nat.le_refl _)]
      simp only []
      obtain ⟨_, t2⟩ := grow_top key compatible hl
      rw [ih _ (by omega), divideConnecteds_of_ne_nil key compatible hl]

/-- the first group starts with the item `popMax` selects (the first one of maximal |area|) -/
theorem divideConnecteds_head {l : List α} {m : α} {rest : List α} (h : popMax key l = some (m, rest)) :
    ∃ t gs, divideConnecteds key compatible l = (m :: t) :: gs := by
  have hl : l ≠ [] := by
    intro hl; rw [(popMax_eq_none key l).2 hl] at h; cases h
  rw [divideConnecteds_of_ne_nil key compatible hl]
  obtain ⟨t, ht⟩ := grow_head key compatible [] [] h
  exact ⟨t, _, by rw [← ht]; rfl⟩

end Divide

/-! ## `JordanCurve.clean` -/

/-- `segments[i] | segments[(i+1) % n]`, when both segments exist and can be united -/
def uniteAt {σ} (unite : σ → σ → Option σ) (segs : List σ) (i : Nat) : Option σ :=
  match segs[i]?, segs[(i + 1) % segs.length]? with
  | some a, some b => unite a b
  | _, _ => none

theorem uniteAt_eq {σ} (unite : σ → σ → Option σ) {segs : List σ} {i : Nat} {a b : σ}
    (ha : segs[i]? = some a) (hb : segs[(i + 1) % segs.length]? = some b) :
    uniteAt unite segs i = unite a b := by
  unfold uniteAt; rw [ha, hb]

theorem uniteAt_eq_some {σ} {unite : σ → σ → Option σ} {segs : List σ} {i : Nat} {u : σ}
    (h : uniteAt unite segs i = some u) :
    ∃ a b, segs[i]? = some a ∧ segs[(i + 1) % segs.length]? = some b ∧ unite a b = some u := by
  unfold uniteAt at h
  split at h
  · rename_i a b ha hb; exact ⟨a, b, ha, hb, h⟩
  · cases h

/-- the scan of l.281–300 is `findSome?` over the indices `i, …, i + todo - 1`: it returns the first index at which
the union exists -/
theorem findUnionFrom_eq {σ} (unite : σ → σ → Option σ) (segs : List σ) : ∀ (todo i : Nat),
    findUnionFrom unite segs todo i =
      (List.range' i todo).findSome? fun k => (uniteAt unite segs k).map fun u => (k, u)
  | 0, i => rfl
  | todo + 1, i => by
    rw [List.range'_succ, List.findSome?_cons, ← findUnionFrom_eq unite segs todo (i + 1), findUnionFrom, uniteAt]
    cases segs[i]? <;> cases segs[(i + 1) % segs.length]? <;> try rfl
    dsimp only
    cases unite _ _ <;> rfl

theorem findUnion_some {σ} (unite : σ → σ → Option σ) (segs : List σ) (k : Nat) (u : σ)
    (h : findUnion unite segs = some (k, u)) : k < segs.length ∧ uniteAt unite segs k = some u := by
  rw [findUnion, findUnionFrom_eq] at h
  obtain ⟨a, hmem, ha⟩ := List.exists_of_findSome?_eq_some h
  obtain ⟨u', hu', he⟩ := Option.map_eq_some_iff.1 ha
  cases he
  exact ⟨by simpa using hmem, hu'⟩

theorem findUnion_none {σ} (unite : σ → σ → Option σ) (segs : List σ)
    (h : findUnion unite segs = none) : ∀ i, i < segs.length → uniteAt unite segs i = none := by
  rw [findUnion, findUnionFrom_eq, List.findSome?_eq_none_iff] at h
  exact fun i hi => Option.map_eq_none_iff.1 (h i (by simpa using hi))

/-- one union: `segments[i] = segment; segments.pop(j)` shortens the list by exactly one -/
theorem length_after_union {σ} (segs : List σ) (i : Nat) (u : σ) (hi : i < segs.length) :
    ((segs.set i u).eraseIdx ((i + 1) % segs.length)).length + 1 = segs.length := by
  have : (i + 1) % segs.length < segs.length := Nat.mod_lt _ (by omega)
  rw [List.length_eraseIdx, List.length_set, if_pos this]; omega

/-- a union empties the list only on a one-segment list, where it unites the segment with itself -/
theorem union_ne_nil {σ} {unite : σ → σ → Option σ} (hself : ∀ s, unite s s = none) {segs : List σ} {i : Nat}
    {u : σ} (hi : i < segs.length) (hu : uniteAt unite segs i = some u) :
    (segs.set i u).eraseIdx ((i + 1) % segs.length) ≠ [] := by
  intro hnil
  have hlen := length_after_union segs i u hi
  rw [hnil, List.length_nil] at hlen
  obtain ⟨a, b, ha, hb, hab⟩ := uniteAt_eq_some hu
  have hi0 : i = 0 := by omega
  rw [hi0, ← hlen, Nat.mod_self] at hb
  rw [hi0, hb] at ha
  cases ha
  rw [hself a] at hab; cases hab

/-- a run of the loop of `clean` with fuel above the number of segments; `k` counts the unions -/
theorem cleanLoopFuel_spec {σ} (unite : σ → σ → Option σ) :
    ∀ (fuel : Nat) (segs : List σ) (k : Nat), segs.length + 1 ≤ fuel →
      ∃ r k', (∀ d, cleanLoopFuel unite (fuel + d) segs k = some (r, k')) ∧
        r.length + k' = segs.length + k ∧ (∀ i, i < r.length → uniteAt unite r i = none) ∧
        ((∀ s, unite s s = none) → segs ≠ [] → r ≠ []) := by
  intro fuel
  induction fuel with
  | zero => intro segs k h; omega
  | succ f ih =>
    intro segs k h
    have hd : ∀ d, f + 1 + d = (f + d) + 1 := fun d => Nat.add_right_comm _ _ _
    simp only [hd, cleanLoopFuel]
    cases hf : findUnion unite segs with
    | none =>
      exact ⟨segs, k, fun _ => rfl, rfl, findUnion_none unite segs hf, fun _ h => h⟩
    | some iu =>
      obtain ⟨i, u⟩ := iu
      obtain ⟨hi, hu⟩ := findUnion_some unite segs i u hf
      have hlen := length_after_union segs i u hi
      obtain ⟨r, k', e1, e2, e3, e4⟩ :=
        ih ((segs.set i u).eraseIdx ((i + 1) % segs.length)) (k + 1) (by omega)
      exact ⟨r, k', e1, by omega, e3, fun hself _ => e4 hself (union_ne_nil hself hi hu)⟩

end ShapeVerif.Follow
