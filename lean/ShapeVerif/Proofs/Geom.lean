/- Edges and the crossing number: the contribution of one edge to `wind` in closed form (`edgeSign`, `contrib_sign`:
if the supporting line passes under the point, the difference of "start is left of the point" and "end is left of the
point"), hence its behaviour under reversal and under the insertion of a vertex ANYWHERE on the supporting line
(`contrib_along`: the pieces of one line share the condition, their differences telescope: `contrib_split`), and under
maps that keep the order of abscissae and the orientation (`contrib_map`: translation, positive axis scaling); the
crossing number of the axis-parallel rectangle, started at any corner, at every point of the plane (`rect_wind`: a product of
two differences of indicators), the ground truth for `wind`. -/
import ShapeVerif.Proofs.Plane
import ShapeVerif.Proofs.Chain
import ShapeVerif.Proofs.Moments
import Mathlib.Tactic.Ring
import Mathlib.Tactic.Linarith

namespace ShapeVerif.Geom

/-- the summand of `wind` (`wind_eq`) -/
def contrib (e : Edge) (r : Pt) : Int := if e.below r then e.dir else 0

theorem wind_eq (es : List Edge) (r : Pt) : wind es r = (es.map fun e => contrib e r).sum := rfl

theorem wind_edges (j : Jordan) (r : Pt) :
    wind j.edges r = (List.map (fun s => contrib (Seg.chord s) r) j).sum := by
  simp only [wind_eq, Jordan.edges, List.map_map, Function.comp_def]

theorem wind_nil (r : Pt) : wind [] r = 0 := rfl

theorem wind_cons (e : Edge) (es : List Edge) (r : Pt) : wind (e :: es) r = contrib e r + wind es r := by
  rw [wind_eq, wind_eq, List.map_cons, List.sum_cons]

theorem wind_append (l1 l2 : List Edge) (r : Pt) : wind (l1 ++ l2) r = wind l1 r + wind l2 r := by
  rw [wind_eq, wind_eq, wind_eq, List.map_append, List.sum_append]

theorem contrib_eq (e : Edge) (r : Pt) :
    contrib e r = if e.level r.x < r.y then (if e.lo ≤ r.x ∧ r.x < e.hi then e.dir else 0) else 0 := by
  simp only [contrib, Edge.below, Edge.inRange, Bool.and_eq_true, decide_eq_true_eq, and_comm (b := _ < r.y), ite_and]

theorem Edge.dir_ne_zero (e : Edge) : e.dir ≠ 0 := by
  unfold Edge.dir
  split_ifs
  · exact one_ne_zero
  · exact neg_ne_zero.mpr one_ne_zero

theorem Edge.below_iff_contrib (e : Edge) (r : Pt) : e.below r = true ↔ contrib e r ≠ 0 := by
  unfold contrib
  cases e.below r
  · simp
  · simpa using Edge.dir_ne_zero e

/-- how far `r` is above the supporting line, cleared of the division by `q.x − p.x` -/
theorem level_cross (p q r : Pt) (h : q.x - p.x ≠ 0) :
    (r.y - (⟨p, q⟩ : Edge).level r.x) * (q.x - p.x) = Pt.cross (q - p) (r - p) := by
  simp only [Edge.level, Edge.icept, Edge.slope, Pt.cross, Pt.sub_x, Pt.sub_y]
  field_simp
  ring

theorem level_lt_iff (p q r : Pt) (h : q.x - p.x ≠ 0) :
    (⟨p, q⟩ : Edge).level r.x < r.y ↔ 0 < Pt.cross (q - p) (r - p) * (q.x - p.x) := by
  rw [← level_cross p q r h, mul_assoc, mul_pos_iff_of_pos_right (mul_self_pos.mpr h), sub_pos]

theorem ind_sub_ind {a b t : Rat} (hab : a ≤ b) :
    (if a ≤ t then (1 : Int) else 0) - (if b ≤ t then 1 else 0) = if a ≤ t ∧ t < b then 1 else 0 := by
  by_cases hb : b ≤ t
  · rw [if_pos (hab.trans hb), if_pos hb, if_neg (fun k => not_le.mpr k.2 hb)]; rfl
  · by_cases ha : a ≤ t
    · rw [if_pos ha, if_neg hb, if_pos ⟨ha, not_le.mp hb⟩]; rfl
    · rw [if_neg ha, if_neg hb, if_neg (fun k => ha k.1)]; rfl

/-- the contribution at a point of abscissa `t` of an edge that goes from abscissa `a` to abscissa `b`, the point being on
the side `h` of the directed edge (`h > 0`: on the left).  When the supporting line passes under the point
(`0 < h * (b - a)`), the start counts `+1` and the end `-1` if they are left of (or at) the point: a difference, so the
contributions along one line telescope (`contrib_split`) -/
def edgeSign (a b t h : Rat) : Int :=
  if 0 < h * (b - a) then (if a ≤ t then 1 else 0) - (if b ≤ t then 1 else 0) else 0

section edgeSign
variable {a b t a' b' t' : Rat}

theorem edgeSign_same (h : Rat) (huv : a ≤ t ↔ b ≤ t) : edgeSign a b t h = 0 := by
  simp only [edgeSign, huv, sub_self, ite_self]

theorem edgeSign_up (h : Rat) (hu : a ≤ t) (hv : ¬ b ≤ t) : edgeSign a b t h = if 0 < h then 1 else 0 := by
  have hd : 0 < b - a := by linarith
  simp only [edgeSign, mul_pos_iff_of_pos_right hd, if_pos hu, if_neg hv]
  rfl

theorem edgeSign_down (h : Rat) (hu : ¬ a ≤ t) (hv : b ≤ t) : edgeSign a b t h = if h < 0 then -1 else 0 := by
  have hd : 0 < -(b - a) := by linarith
  simp only [edgeSign, ← neg_mul_neg h, mul_pos_iff_of_pos_right hd, neg_pos, if_neg hu, if_pos hv]
  rfl

theorem edgeSign_of_pos {h : Rat} (hh : 0 < h) : edgeSign a b t h = if a ≤ t ∧ ¬ b ≤ t then 1 else 0 := by
  by_cases hu : a ≤ t <;> by_cases hv : b ≤ t
  · rw [edgeSign_same h (iff_of_true hu hv), if_neg (fun k => k.2 hv)]
  · rw [edgeSign_up h hu hv, if_pos hh, if_pos ⟨hu, hv⟩]
  · rw [edgeSign_down h hu hv, if_neg (lt_asymm hh), if_neg (fun k => hu k.1)]
  · rw [edgeSign_same h (iff_of_false hu hv), if_neg (fun k => hu k.1)]

/-- only the order of the three abscissae and the sign of the side matter -/
theorem edgeSign_congr {h h' : Rat} (hU : a ≤ t ↔ a' ≤ t') (hV : b ≤ t ↔ b' ≤ t') (hp : 0 < h ↔ 0 < h')
    (hn : h < 0 ↔ h' < 0) : edgeSign a b t h = edgeSign a' b' t' h' := by
  by_cases hu : a ≤ t <;> by_cases hv : b ≤ t
  · rw [edgeSign_same h (iff_of_true hu hv), edgeSign_same h' (iff_of_true (hU.mp hu) (hV.mp hv))]
  · simp only [edgeSign_up h hu hv, edgeSign_up h' (hU.mp hu) (mt hV.mpr hv), hp]
  · simp only [edgeSign_down h hu hv, edgeSign_down h' (mt hU.mpr hu) (hV.mp hv), hn]
  · rw [edgeSign_same h (iff_of_false hu hv), edgeSign_same h' (iff_of_false (mt hU.mpr hu) (mt hV.mpr hv))]

end edgeSign

/-- division-free form of the ray-crossing test -/
theorem contrib_sign (p q r : Pt) :
    contrib ⟨p, q⟩ r = edgeSign p.x q.x r.x (Pt.cross (q - p) (r - p)) := by
  rw [contrib_eq, edgeSign]
  rcases lt_trichotomy p.x q.x with hlt | heq | hgt
  · simp only [level_lt_iff p q r (sub_ne_zero.mpr hlt.ne'), ind_sub_ind hlt.le, Edge.lo, Edge.hi, Edge.dir,
      if_pos hlt, if_pos hlt.le]
  · simp only [Edge.lo, Edge.hi, heq, sub_self, mul_zero, lt_irrefl, ite_self]
    rw [if_neg (fun k : q.x ≤ r.x ∧ r.x < q.x => not_lt.mpr k.1 k.2), ite_self]
  · simp only [level_lt_iff p q r (sub_ne_zero.mpr hgt.ne), ← neg_sub (if q.x ≤ r.x then (1 : Int) else 0),
      ind_sub_ind hgt.le, Edge.lo, Edge.hi, Edge.dir, if_neg (not_lt.mpr hgt.le), if_neg (not_le.mpr hgt),
      apply_ite Neg.neg, neg_zero]

theorem cross_rev (p q r : Pt) : Pt.cross (p - q) (r - q) = - Pt.cross (q - p) (r - p) := by
  simp only [Pt.cross, Pt.sub_x, Pt.sub_y]; ring

/-- a piece `a → b` of the line `p → q` (`b − a = s (q − p)`, `s ≠ 0`) -/
theorem contrib_along {p q a b r : Pt} {s : Rat} (hs : s ≠ 0) (hx : b.x - a.x = s * (q.x - p.x))
    (hc : Pt.cross (b - a) (r - a) = s * Pt.cross (q - p) (r - p)) :
    contrib ⟨a, b⟩ r = if 0 < Pt.cross (q - p) (r - p) * (q.x - p.x)
      then (if a.x ≤ r.x then 1 else 0) - (if b.x ≤ r.x then 1 else 0) else 0 := by
  simp only [contrib_sign, edgeSign, hx, hc, mul_mul_mul_comm s, mul_pos_iff_of_pos_left (mul_self_pos.mpr hs)]

theorem contrib_rev (p q r : Pt) : contrib ⟨q, p⟩ r = - contrib ⟨p, q⟩ r := by
  rw [contrib_along (p := p) (q := q) (neg_ne_zero.mpr one_ne_zero) (by ring) (by rw [cross_rev, neg_one_mul]),
    contrib_sign, edgeSign, apply_ite Neg.neg, neg_sub, neg_zero]

theorem contrib_vertical (p q r : Pt) (h : p.x = q.x) : contrib ⟨p, q⟩ r = 0 := by
  rw [contrib_sign, edgeSign_same _ (by rw [h])]

/-- the point is on the left of the directed line: edges travelled right-to-left pass above it, edges travelled
left-to-right below it -/
theorem contrib_of_left (p q r : Pt) (h : 0 < Pt.cross (q - p) (r - p)) :
    contrib ⟨p, q⟩ r = if p.x ≤ r.x ∧ r.x < q.x then 1 else 0 := by
  rw [contrib_sign, edgeSign_of_pos h]
  simp only [not_le]

def mapE (f : Pt → Pt) (e : Edge) : Edge := ⟨f e.p, f e.q⟩

theorem contrib_map {f : Pt → Pt} {k : Rat} (hx : ∀ a b : Pt, (f a).x ≤ (f b).x ↔ a.x ≤ b.x) (hk : 0 < k)
    (hc : ∀ a b c e : Pt, Pt.cross (f a - f b) (f c - f e) = k * Pt.cross (a - b) (c - e))
    (e : Edge) (r : Pt) : contrib (mapE f e) (f r) = contrib e r := by
  obtain ⟨p, q⟩ := e
  simp only [mapE]
  rw [contrib_sign, contrib_sign, hc]
  exact edgeSign_congr (hx p r) (hx q r) (mul_pos_iff_of_pos_left hk)
    (by rw [← neg_pos, ← mul_neg, mul_pos_iff_of_pos_left hk, neg_pos])

theorem Edge.dir_map {f : Pt → Pt} (hx : ∀ a b : Pt, (f a).x ≤ (f b).x ↔ a.x ≤ b.x) (e : Edge) :
    (mapE f e).dir = e.dir := by
  simp only [Edge.dir, mapE, ← not_le, hx]

theorem Edge.below_map {f : Pt → Pt} {r : Pt} (hc : ∀ e, contrib (mapE f e) (f r) = contrib e r) (e : Edge) :
    (mapE f e).below (f r) = e.below r := by
  rw [Bool.eq_iff_iff, Edge.below_iff_contrib, Edge.below_iff_contrib, hc]

theorem Pt.move_x_le (d a b : Pt) : (a.move d).x ≤ (b.move d).x ↔ a.x ≤ b.x := by
  simp only [Pt.move, add_le_add_iff_right]

theorem Pt.scale_x_le {sx : Rat} (hx : 0 < sx) (sy : Rat) (a b : Pt) :
    (a.scale sx sy).x ≤ (b.scale sx sy).x ↔ a.x ≤ b.x := by
  simp only [Pt.scale]
  exact mul_le_mul_iff_of_pos_right hx

theorem contrib_map_move (e : Edge) (d r : Pt) : contrib (mapE (·.move d) e) (r.move d) = contrib e r :=
  contrib_map (Pt.move_x_le d) one_pos (fun a b c e => (Pt.cross_sub_move a b c e d).trans (one_mul _).symm) e r

theorem contrib_map_scale (e : Edge) (sx sy : Rat) (hx : 0 < sx) (hy : 0 < sy) (r : Pt) :
    contrib (mapE (·.scale sx sy) e) (r.scale sx sy) = contrib e r :=
  contrib_map (Pt.scale_x_le hx sy) (mul_pos hx hy) (fun a b c e => Pt.cross_sub_scale a b c e sx sy) e r

theorem wind_map (f : Pt → Pt) (es : List Edge) (r : Pt)
    (h : ∀ e, contrib (mapE f e) (f r) = contrib e r) : wind (es.map (mapE f)) (f r) = wind es r := by
  induction es with
  | nil => rfl
  | cons e t ih => rw [List.map_cons, wind_cons, wind_cons, ih, h]

theorem chord_map (f : Pt → Pt) (s : Seg) (hs : s ≠ []) : Seg.chord (s.map f) = mapE f (Seg.chord s) := by
  cases s with
  | nil => exact absurd rfl hs
  | cons a t => simp only [Seg.chord, mapE, List.map_cons, List.headD_cons, List.getLastD_cons, List.getLastD_map]

theorem edges_map (f : Pt → Pt) (j : Jordan) (hj : ∀ s ∈ j, s ≠ []) :
    (Jordan.map f j).edges = j.edges.map (mapE f) := by
  simp only [Jordan.edges, Jordan.map, List.map_map]
  apply List.map_congr_left
  intro s hs
  exact chord_map f s (hj s hs)

theorem memW_map (f : Pt → Pt) (j : Jordan) (hj : j.isPolygon = true) (r : Pt) {k : Rat} (hk : 0 < k)
    (hc : ∀ e, contrib (mapE f e) (f r) = contrib e r) (ha : Jordan.area (Jordan.map f j) = k * Jordan.area j) :
    memW (Jordan.map f j) (f r) = memW j r := by
  have hw : wind (Jordan.map f j).edges (f r) = wind j.edges r := by
    rw [edges_map _ _ (polygon_nonempty j hj)]
    exact wind_map f _ r hc
  have hcc : (Jordan.map f j).ccw = j.ccw := by
    simp only [Jordan.ccw, ha, mul_pos_iff_of_pos_left hk]
  simp only [memW, hw, hcc]

theorem memW_of_wind_one {j : Jordan} {r : Pt} (ha : 0 < Jordan.area j) (hw : wind j.edges r = 1) : memW j r = true := by
  rw [memW, Jordan.ccw, decide_eq_true ha, if_pos rfl, hw]
  rfl

theorem cross_lerp_left (p q r : Pt) (t : Rat) :
    Pt.cross (lerp p q t - p) (r - p) = t * Pt.cross (q - p) (r - p) := by
  simp only [Pt.cross, Pt.sub_x, Pt.sub_y, lerp]; ring

theorem cross_lerp_right (p q r : Pt) (t : Rat) :
    Pt.cross (q - lerp p q t) (r - lerp p q t) = (1 - t) * Pt.cross (q - p) (r - p) := by
  simp only [Pt.cross, Pt.sub_x, Pt.sub_y, lerp]; ring

/-- cut at ANY point of the line, between the ends or not -/
theorem contrib_split (p q r : Pt) (t : Rat) :
    contrib ⟨p, lerp p q t⟩ r + contrib ⟨lerp p q t, q⟩ r = contrib ⟨p, q⟩ r := by
  by_cases h0 : t = 0
  · rw [h0, lerp_zero, contrib_vertical p p r rfl, Int.zero_add]
  by_cases h1 : t = 1
  · rw [h1, lerp_one, contrib_vertical q q r rfl, Int.add_zero]
  rw [contrib_along h0 (by simp only [lerp]; ring) (cross_lerp_left p q r t),
    contrib_along (sub_ne_zero.mpr (Ne.symm h1)) (by simp only [lerp]; ring) (cross_lerp_right p q r t),
    contrib_sign p q, edgeSign, ite_add_ite, sub_add_sub_cancel, add_zero]

theorem wind_fromVertices4 (a b c d r : Pt) :
    wind (Jordan.fromVertices [a, b, c, d]).edges r
      = contrib ⟨a, b⟩ r + contrib ⟨b, c⟩ r + contrib ⟨c, d⟩ r + contrib ⟨d, a⟩ r := by
  simp [wind_eq, Jordan.fromVertices, Jordan.edges, Seg.chord]; ring

theorem wind_fromVertices3 (a b c r : Pt) :
    wind (Jordan.fromVertices [a, b, c]).edges r
      = contrib ⟨a, b⟩ r + contrib ⟨b, c⟩ r + contrib ⟨c, a⟩ r := by
  simp [wind_eq, Jordan.fromVertices, Jordan.edges, Seg.chord]; ring

/-- a quadrilateral at a point on the left of its four sides and between the abscissae of `c` and `a`: `a → b → c` passes
above the point, and of `c → d`, `d → a` the one that passes from left to right of it is met -/
theorem quad_wind_inside (a b c d r : Pt) (hab : 0 < Pt.cross (b - a) (r - a)) (hbc : 0 < Pt.cross (c - b) (r - b))
    (hcd : 0 < Pt.cross (d - c) (r - c)) (hda : 0 < Pt.cross (a - d) (r - d)) (hc : c.x ≤ r.x) (ha : r.x < a.x) :
    wind (Jordan.fromVertices [a, b, c, d]).edges r = 1 := by
  rw [wind_fromVertices4, contrib_of_left a b r hab, contrib_of_left b c r hbc, contrib_of_left c d r hcd,
    contrib_of_left d a r hda, if_neg (fun k => not_le.mpr ha k.1), if_neg (fun k => not_lt.mpr hc k.2)]
  by_cases hx : r.x < d.x
  · rw [if_pos ⟨hc, hx⟩, if_neg (fun k => not_le.mpr hx k.1)]; rfl
  · rw [if_neg (fun k => hx k.2), if_pos ⟨not_lt.mp hx, ha⟩]; rfl

/-- a horizontal edge in either direction, a piece of the line `(0, y) → (1, y)`: it passes under the points above it -/
theorem contrib_horizontal (a b y : Rat) (r : Pt) :
    contrib ⟨⟨a, y⟩, ⟨b, y⟩⟩ r = if y < r.y then (if a ≤ r.x then 1 else 0) - (if b ≤ r.x then 1 else 0) else 0 := by
  by_cases hab : a = b
  · rw [contrib_vertical _ _ r hab, hab, sub_self, ite_self]
  · rw [contrib_along (p := ⟨0, y⟩) (q := ⟨1, y⟩) (s := b - a) (sub_ne_zero.mpr (Ne.symm hab))]
    · simp only [Pt.cross, Pt.sub_x, Pt.sub_y, sub_self, zero_mul, sub_zero, one_mul, mul_one, sub_pos]
    · simp only [sub_zero, mul_one]
    · simp only [Pt.cross, Pt.sub_x, Pt.sub_y, sub_self, zero_mul, sub_zero, one_mul]

/-- the crossing number of the rectangle with the opposite corners `(x0, y0)`, `(x1, y1)`, in EITHER order, at EVERY point of
the plane: the vertical sides never count, the side at `y0` counts for the points above it with the sign of its direction,
the side at `y1` with the opposite sign -/
theorem rect_wind (x0 y0 x1 y1 : Rat) (r : Pt) :
    wind (rect x0 y0 x1 y1).edges r =
      ((if x0 ≤ r.x then 1 else 0) - (if x1 ≤ r.x then 1 else 0))
        * ((if y0 < r.y then 1 else 0) - (if y1 < r.y then 1 else 0)) := by
  rw [rect, wind_fromVertices4, contrib_vertical (⟨x1, y0⟩ : Pt) ⟨x1, y1⟩ r rfl,
    contrib_vertical (⟨x0, y1⟩ : Pt) ⟨x0, y0⟩ r rfl, contrib_rev ⟨x0, y1⟩ ⟨x1, y1⟩ r, contrib_horizontal,
    contrib_horizontal, add_zero, add_zero, ← sub_eq_add_neg, mul_sub, mul_ite, mul_ite, mul_one, mul_zero]

end ShapeVerif.Geom
