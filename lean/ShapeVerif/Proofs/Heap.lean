/- The object-graph model (M6).  Every operation either leaves the heap as it is or rebinds its target to a curve over
cells the target owned or that are fresh (`Upd`, `step_cases`); this holds of every heap: that owned ids are allocated
is what `WF` adds (`Upd.bound`).  `poly`, `copy`, `invert` are one allocation (`Upd.alloc`) and `split` is one per
segment, so the invariant of its fold is `Upd` itself.  From that one shape follow well-formedness, separation and cache
consistency along every history (`Inv`, `Inv.runOps`) and the frame property (`frame_step`, `frame_runOps`).  `view` is
the geometry a variable denotes; `move/scale/rot` are one operation (`HeapOp.ptMap`, `view_step_ptMap`). -/
import ShapeVerif.Model.Heap

namespace ShapeVerif

theorem getD_append_lt {α : Type} (l m : List α) (i : Nat) (d : α) (hi : i < l.length) :
    (l ++ m).getD i d = l.getD i d := by
  simp [List.getD_eq_getElem?_getD, List.getElem?_append_left hi]

theorem getD_append_ge {α : Type} (l m : List α) (k : Nat) (d : α) :
    (l ++ m).getD (l.length + k) d = m.getD k d := by
  simp [List.getD_eq_getElem?_getD, List.getElem?_append_right]

theorem map_map_congr {α β : Type} {L : List (List α)} {f g : α → β} (h : ∀ i ∈ L.flatten, f i = g i) :
    L.map (List.map f) = L.map (List.map g) :=
  List.map_congr_left fun s hs => List.map_congr_left fun i hi => h i (List.mem_flatten.mpr ⟨s, hs, hi⟩)

/-- … after a renaming `r` of the elements -/
theorem map_map_congr_comp {α β γ : Type} {L : List (List α)} {r : α → γ} {f : γ → β} {g : α → β}
    (h : ∀ i ∈ L.flatten, f (r i) = g i) : (L.map (List.map r)).map (List.map f) = L.map (List.map g) := by
  rw [List.map_map, ← map_map_congr h]
  exact List.map_congr_left fun s _ => List.map_map

namespace Misc

/-- the segments joining consecutive elements of a list -/
def chainSegs {α : Type} (pts : List α) : List (List α) := (pts.zip pts.tail).map fun xy => [xy.1, xy.2]

theorem chainSegs_cons_cons {α : Type} (a b : α) (l : List α) :
    chainSegs (a :: b :: l) = [a, b] :: chainSegs (b :: l) := rfl

theorem chainSegs_map {α β : Type} (f : α → β) (l : List α) :
    (chainSegs l).map (List.map f) = chainSegs (l.map f) := by
  unfold chainSegs
  rw [← List.map_tail, List.zip_map, List.map_map, List.map_map]
  rfl

theorem chainSegs_mem {α : Type} (l : List α) : ∀ i ∈ (chainSegs l).flatten, i ∈ l := by
  intro i hi
  obtain ⟨s, hs, hi⟩ := List.mem_flatten.mp hi
  simp only [chainSegs, List.mem_map] at hs
  obtain ⟨xy, hxy, rfl⟩ := hs
  simp only [List.mem_cons, List.not_mem_nil, or_false] at hi
  rcases hi with rfl | rfl
  · exact (List.of_mem_zip hxy).1
  · exact List.mem_of_mem_tail (List.of_mem_zip hxy).2

/-- the ids on the chain from `a` to `b` through `n` cells allocated from `base` on: the two ends and fresh ids -/
theorem mem_freshChain {a b base n i : Nat}
    (hi : i ∈ (chainSegs (a :: (List.range n).map (base + ·) ++ [b])).flatten) :
    i ∈ [a, b] ∨ (base ≤ i ∧ i < base + n) := by
  have := chainSegs_mem _ i hi
  simp only [List.cons_append, List.mem_cons, List.mem_append, List.mem_map, List.mem_range,
    List.not_mem_nil, or_false] at this
  rcases this with rfl | ⟨x, hx, rfl⟩ | rfl
  · exact Or.inl List.mem_cons_self
  · exact Or.inr ⟨Nat.le_add_right _ _, Nat.add_lt_add_left hx _⟩
  · exact Or.inl (List.mem_cons_of_mem _ List.mem_cons_self)

end Misc

/-- the variable an operation writes -/
def HeapOp.target : HeapOp → Nat
  | .poly v _ => v
  | .move v _ => v
  | .scale v _ _ => v
  | .rot v _ _ => v
  | .invert v => v
  | .copy d _ => d
  | .adopt d _ => d
  | .len v => v
  | .split v _ => v

/-- the point map that `move`, `scale`, `rotate` apply to every vertex of their target: the three are one
operation, `Heap.view_step_ptMap` -/
def HeapOp.ptMap : HeapOp → Option (Pt → Pt)
  | .move _ d => some fun p => p.move d
  | .scale _ sx sy => some fun p => p.scale sx sy
  | .rot _ c s => some fun p => p.rot c s
  | _ => none

namespace Heap

theorem dedupFold_spec (l : List Nat) : ∀ acc : List Nat, acc.Nodup →
    (l.foldl (fun acc i => if acc.contains i then acc else acc ++ [i]) acc).Nodup ∧
      ∀ i, i ∈ l.foldl (fun acc i => if acc.contains i then acc else acc ++ [i]) acc ↔ i ∈ acc ∨ i ∈ l := by
  induction l with
  | nil => intro acc h; simpa using h
  | cons a t ih =>
    intro acc h
    rw [List.foldl_cons]
    by_cases hc : a ∈ acc
    · rw [if_pos (List.contains_iff_mem.mpr hc)]
      refine ⟨(ih acc h).1, fun i => ?_⟩
      rw [(ih acc h).2 i, List.mem_cons]
      exact ⟨Or.imp_right Or.inr, fun hi => hi.elim Or.inl fun hi => hi.elim (fun e => Or.inl (e ▸ hc)) Or.inr⟩
    · have h' : (acc ++ [a]).Nodup := by
        rw [List.nodup_append]
        exact ⟨h, by simp, fun x hx y hy e => hc (List.mem_singleton.mp hy ▸ e ▸ hx)⟩
      rw [if_neg (mt List.contains_iff_mem.mp hc)]
      refine ⟨(ih _ h').1, fun i => ?_⟩
      rw [(ih _ h').2 i, List.mem_append, List.mem_singleton, List.mem_cons, or_assoc]

theorem mem_ids (c : HCurve) (i : Nat) : i ∈ ids c ↔ i ∈ c.segs.flatten := by
  simpa [ids, dedupNat] using (dedupFold_spec c.segs.flatten [] List.nodup_nil).2 i

/-- each id once: this is why a transformation touches each vertex once -/
theorem nodup_ids (c : HCurve) : (ids c).Nodup := (dedupFold_spec c.segs.flatten [] List.nodup_nil).1

/-! ### `mapCells`: each listed cell is updated exactly once, all other cells are untouched -/

theorem length_mapFold (f : Pt → Pt) (is : List Nat) (cells : List Pt) :
    (is.foldl (fun cs i => cs.set i (f (cs.getD i Pt.zero))) cells).length = cells.length :=
  List.foldlRecOn (motive := fun cs : List Pt => cs.length = cells.length) is _ rfl fun cs h a _ => by
    rw [List.length_set, h]

/-- the cell after the fold: a listed cell (if allocated) has received `f` once, because it is listed once -/
theorem getD_mapFold (f : Pt → Pt) (is : List Nat) (j : Nat) (hn : is.Nodup) (cells : List Pt) :
    (is.foldl (fun cs i => cs.set i (f (cs.getD i Pt.zero))) cells).getD j Pt.zero
      = if j ∈ is ∧ j < cells.length then f (cells.getD j Pt.zero) else cells.getD j Pt.zero := by
  induction is generalizing cells with
  | nil => simp
  | cons a is ih =>
    rw [List.foldl_cons, ih (List.nodup_cons.mp hn).2, List.length_set]
    by_cases e : j = a
    · subst e
      by_cases hlt : j < cells.length <;> simp [(List.nodup_cons.mp hn).1, hlt, List.getD_eq_getElem?_getD]
    · simp [e, Ne.symm e, List.getD_eq_getElem?_getD, List.getElem?_set_ne]

/-- each vertex exactly once, at the level of cells -/
theorem cell_mapCells (h : Heap) (c : HCurve) (f : Pt → Pt) (i : Nat) :
    (h.mapCells (ids c) f).cell i = if i ∈ c.segs.flatten ∧ i < h.cells.length then f (h.cell i) else h.cell i := by
  simp only [← mem_ids]; exact getD_mapFold f _ i (nodup_ids c) _

/-- hence the geometry of the curve becomes the image of its old geometry, whatever the sharing pattern
of its segments -/
theorem geom_mapCells (h : Heap) (c : HCurve) (hb : ∀ i ∈ c.segs.flatten, i < h.cells.length) (f : Pt → Pt) :
    (h.mapCells (ids c) f).geom { c with cache := none } = Jordan.map f (h.geom c) :=
  (map_map_congr_comp fun i hi => by rw [cell_mapCells, if_pos ⟨hi, hb i hi⟩]).symm

theorem lookup_mem {h : Heap} {v : Nat} {c : HCurve} (hl : h.lookup v = some c) : (v, c) ∈ h.vars := by
  obtain ⟨a, ha, rfl⟩ := Option.map_eq_some_iff.mp hl
  have : a.1 = v := by simpa using List.find?_some ha
  exact this ▸ List.mem_of_find?_eq_some ha

theorem find?_filter_ne (l : List (Nat × HCurve)) (v w : Nat) (hne : v ≠ w) :
    (l.filter fun p => p.1 != v).find? (fun p => p.1 == w) = l.find? (fun p => p.1 == w) := by
  rw [List.find?_filter]
  congr 1; funext p
  by_cases e : p.1 = w
  · simp [e, Ne.symm hne]
  · simp [e]

theorem lookup_setVar_ne (h : Heap) (v w : Nat) (c : HCurve) (hne : v ≠ w) :
    (h.setVar v c).lookup w = h.lookup w := by
  simp only [lookup, setVar, List.find?_cons, find?_filter_ne _ v w hne, beq_eq_false_iff_ne.mpr hne]

theorem lookup_setVar_self (h : Heap) (v : Nat) (c : HCurve) : (h.setVar v c).lookup v = some c := by
  simp [lookup, setVar]

theorem names_setVar {h : Heap} (hn : (h.vars.map Prod.fst).Nodup) (v : Nat) (c : HCurve) :
    ((h.setVar v c).vars.map Prod.fst).Nodup := by
  refine List.nodup_cons.mpr ⟨fun hm => ?_, hn.sublist (List.Sublist.map _ List.filter_sublist)⟩
  obtain ⟨x, hx, e⟩ := List.mem_map.mp hm
  simpa [e] using (List.mem_filter.mp hx).2

theorem geom_setVar (h : Heap) (v : Nat) (c : HCurve) : (h.setVar v c).geom = h.geom := rfl

theorem cells_setVar (h : Heap) (v : Nat) (c : HCurve) : (h.setVar v c).cells = h.cells := rfl

theorem geom_congr (h1 h2 : Heap) (c : HCurve)
    (hc : ∀ i ∈ c.segs.flatten, h1.cell i = h2.cell i) : h1.geom c = h2.geom c :=
  map_map_congr hc

/-- the geometry variable `w` denotes: what the statements of C08–C11 compare before and after an operation -/
def view (h : Heap) (w : Nat) : Option Jordan := (h.lookup w).map h.geom

theorem view_eq_some_iff {h : Heap} {w : Nat} {j : Jordan} :
    h.view w = some j ↔ ∃ c, h.lookup w = some c ∧ h.geom c = j := Option.map_eq_some_iff

theorem view_setVar_self (h : Heap) (v : Nat) (c : HCurve) : (h.setVar v c).view v = some (h.geom c) := by
  rw [view, lookup_setVar_self, geom_setVar]; rfl

theorem view_setVar_ne (h : Heap) {v w : Nat} (c : HCurve) (hne : v ≠ w) : (h.setVar v c).view w = h.view w := by
  rw [view, lookup_setVar_ne _ _ _ _ hne, geom_setVar]; rfl

/-- well-formed heaps: variable names are pairwise distinct and every id used by a variable's curve
addresses an allocated cell -/
structure WF (h : Heap) : Prop where
  names : (h.vars.map Prod.fst).Nodup
  bound : ∀ v c, (v, c) ∈ h.vars → ∀ i ∈ c.segs.flatten, i < h.cells.length

/-- distinct variables own disjoint cells -/
def Sep (h : Heap) : Prop :=
  ∀ v c w d, (v, c) ∈ h.vars → (w, d) ∈ h.vars → v ≠ w → ∀ i ∈ c.segs.flatten, i ∉ d.segs.flatten

/-- a cached length was computed from the current geometry -/
def CacheOK (h : Heap) : Prop :=
  ∀ v c g, (v, c) ∈ h.vars → c.cache = some g → g = h.geom c

theorem sep_iff (h : Heap) : h.sep = true ↔ h.Sep := by
  unfold sep Sep
  simp only [List.all_eq_true, Bool.or_eq_true, beq_iff_eq, Bool.not_eq_true', List.contains_eq_mem,
    decide_eq_false_iff_not, mem_ids, Prod.forall]
  exact ⟨fun H v c w d hv hw hne => (H v c hv w d hw).resolve_left hne,
    fun H v c hv w d hw => Decidable.or_iff_not_imp_left.mpr (H v c w d hv hw)⟩

theorem cacheOK_iff (h : Heap) : h.cacheOK = true ↔ h.CacheOK := by
  unfold cacheOK CacheOK
  simp only [List.all_eq_true, Prod.forall]
  refine forall_congr' fun v => forall_congr' fun c => ?_
  cases c.cache <;> simp

theorem lenAnswer_of_cacheOK {h : Heap} (hc : h.CacheOK) (v : Nat) : h.lenAnswer v = h.view v :=
  Option.map_congr fun c hl => by
    cases hg : c.cache with
    | none => rfl
    | some g => exact hc v c g (lookup_mem hl) hg

theorem WF.init : init.WF := ⟨by simp [Heap.init], by simp [Heap.init]⟩
theorem Sep.init : init.Sep := by intro v c w d hv; simp [Heap.init] at hv
theorem CacheOK.init : init.CacheOK := by intro v c g hv; simp [Heap.init] at hv

/-! ### the common shape of every operation: `h'.setVar t c'` with `Upd h t h' c'` -/

structure Upd (h : Heap) (t : Nat) (h' : Heap) (c' : HCurve) : Prop where
  vars_eq : h'.vars = h.vars
  len_le : h.cells.length ≤ h'.cells.length
  frame : ∀ i, i < h.cells.length → (∀ c, h.lookup t = some c → i ∉ c.segs.flatten) →
    h'.cell i = h.cell i
  ids : ∀ i ∈ c'.segs.flatten,
    (∃ c, h.lookup t = some c ∧ i ∈ c.segs.flatten) ∨ (h.cells.length ≤ i ∧ i < h'.cells.length)
  cache : ∀ g, c'.cache = some g → g = h'.geom c'

section Upd
variable {h h' : Heap} {t : Nat} {c' : HCurve}

theorem Upd.geom_other (u : Upd h t h' c') (hw : h.WF) (hs : h.Sep) {w : Nat} {d : HCurve}
    (hd : (w, d) ∈ h.vars) (hne : w ≠ t) : h'.geom d = h.geom d := by
  apply geom_congr
  intro i hi
  apply u.frame i (hw.bound w d hd i hi)
  intro c hc hic
  exact hs t c w d (lookup_mem hc) hd (Ne.symm hne) i hic hi

/-- `Upd` says where the ids of the new curve come from; that the target's own ones are allocated is `WF` -/
theorem Upd.bound (u : Upd h t h' c') (hw : h.WF) : ∀ i ∈ c'.segs.flatten, i < h'.cells.length := by
  intro i hi
  rcases u.ids i hi with ⟨c, hc, hic⟩ | hf
  · exact Nat.lt_of_lt_of_le (hw.bound t c (lookup_mem hc) i hic) u.len_le
  · exact hf.2

/-- the variables after the rebinding: the target with its new curve, every other one as it was bound in `h` -/
theorem Upd.mem (u : Upd h t h' c') {w : Nat} {d : HCurve} :
    (w, d) ∈ (h'.setVar t c').vars ↔ (w = t ∧ d = c') ∨ ((w, d) ∈ h.vars ∧ w ≠ t) := by
  simp [setVar, List.mem_filter, u.vars_eq]

theorem Upd.wf (u : Upd h t h' c') (hw : h.WF) : (h'.setVar t c').WF := by
  constructor
  · apply names_setVar; rw [u.vars_eq]; exact hw.names
  · intro v c hv i hi
    rw [cells_setVar]
    rcases u.mem.mp hv with ⟨_, rfl⟩ | ⟨hm, _⟩
    · exact u.bound hw i hi
    · exact Nat.lt_of_lt_of_le (hw.bound v c hm i hi) u.len_le

theorem Upd.sep (u : Upd h t h' c') (hw : h.WF) (hs : h.Sep) : (h'.setVar t c').Sep := by
  have key : ∀ w d, (w, d) ∈ h.vars → w ≠ t → ∀ i ∈ c'.segs.flatten, i ∉ d.segs.flatten := by
    intro w d hd hne i hi hid
    rcases u.ids i hi with ⟨c, hc, hic⟩ | hge
    · exact hs t c w d (lookup_mem hc) hd (Ne.symm hne) i hic hid
    · exact absurd (hw.bound w d hd i hid) (Nat.not_lt.mpr hge.1)
  intro v c w d hv hwd hne i hi hid
  rcases u.mem.mp hv with ⟨rfl, rfl⟩ | ⟨hm, hvt⟩
  · rcases u.mem.mp hwd with ⟨rfl, _⟩ | ⟨hm2, hwt⟩
    · exact hne rfl
    · exact key w d hm2 hwt i hi hid
  · rcases u.mem.mp hwd with ⟨rfl, rfl⟩ | ⟨hm2, _⟩
    · exact key v c hm hvt i hid hi
    · exact hs v c w d hm hm2 hne i hi hid

theorem Upd.cacheOK (u : Upd h t h' c') (hw : h.WF) (hs : h.Sep) (hc : h.CacheOK) :
    (h'.setVar t c').CacheOK := by
  intro v c g hv hg
  rw [geom_setVar]
  rcases u.mem.mp hv with ⟨_, rfl⟩ | ⟨hm, hvt⟩
  · exact u.cache g hg
  · rw [u.geom_other hw hs hm hvt]
    exact hc v c g hm hg

theorem Upd.frame_other (u : Upd h t h' c') (hw : h.WF) (hs : h.Sep) {w : Nat} (hne : t ≠ w) :
    (h'.setVar t c').view w = h.view w := by
  have e : h'.lookup w = h.lookup w := by unfold lookup; rw [u.vars_eq]
  rw [view_setVar_ne _ _ hne, view, view, e]
  exact Option.map_congr fun d hl => u.geom_other hw hs (lookup_mem hl) (Ne.symm hne)

end Upd

/-! ### every operation has the common shape -/

theorem upd_map {h : Heap} {v : Nat} {c : HCurve} (hl : h.lookup v = some c) (f : Pt → Pt) :
    Upd h v (h.mapCells (ids c) f) { c with cache := none } where
  vars_eq := rfl
  len_le := by simp only [mapCells, length_mapFold]; exact Nat.le_refl _
  frame := fun i _ hn => by rw [cell_mapCells, if_neg fun hm => hn c hl hm.1]
  ids := fun i hi => Or.inl ⟨c, hl, hi⟩
  cache := by intro g hg; cases hg

/-- nothing allocated yet, no segment yet: where every allocating operation starts -/
theorem Upd.nil (h : Heap) (t : Nat) : Upd h t h ⟨[], none⟩ :=
  ⟨rfl, Nat.le_refl _, fun _ _ _ => rfl, fun _ hi => by simp at hi, fun _ hg => by cases hg⟩

/-- allocation: cells `M` are appended, and the target's curve grows by segments `T` over cells that were the target's
or are among the new ones.  `poly` and `copy` are one such step, `split` is one per segment. -/
theorem Upd.alloc {h H : Heap} {t : Nat} {S : List (List Nat)} (u : Upd h t H ⟨S, none⟩) (M : List Pt)
    {T : List (List Nat)} (hT : ∀ i ∈ T.flatten, (∃ c, h.lookup t = some c ∧ i ∈ c.segs.flatten) ∨
      (H.cells.length ≤ i ∧ i < H.cells.length + M.length)) :
    Upd h t ⟨H.cells ++ M, H.vars⟩ ⟨S ++ T, none⟩ where
  vars_eq := u.vars_eq
  len_le := by simp only [List.length_append]; exact Nat.le_add_right_of_le u.len_le
  frame := fun i hi hn => by
    rw [← u.frame i hi hn]; exact getD_append_lt _ _ _ _ (Nat.lt_of_lt_of_le hi u.len_le)
  ids := fun i hi => by
    simp only [List.length_append]
    rcases List.mem_append.mp (List.flatten_append ▸ hi) with hi | hi
    · exact (u.ids i hi).imp_right fun hf => ⟨hf.1, Nat.lt_add_right _ hf.2⟩
    · exact (hT i hi).imp_right fun hf => ⟨Nat.le_trans u.len_le hf.1, hf.2⟩
  cache := fun _ hg => by cases hg

theorem upd_poly (h : Heap) (v : Nat) (vs : List Pt) :
    Upd h v ⟨h.cells ++ vs, h.vars⟩
      ⟨(List.range vs.length).map fun i => [h.cells.length + i, h.cells.length + (i + 1) % vs.length],
        none⟩ :=
  (Upd.nil h v).alloc vs fun i hi => by
    simp only [List.mem_flatten, List.mem_map, List.mem_range] at hi
    obtain ⟨s, ⟨k, hk, rfl⟩, his⟩ := hi
    have hm : (k + 1) % vs.length < vs.length := Nat.mod_lt _ (by omega)
    simp only [List.mem_cons, List.not_mem_nil, or_false] at his
    rcases his with rfl | rfl <;> exact Or.inr ⟨by omega, by omega⟩

theorem upd_invert {h : Heap} {v : Nat} {c : HCurve} (hl : h.lookup v = some c) :
    Upd h v h ⟨(c.segs.map List.reverse).reverse, none⟩ := by
  simpa using (Upd.nil h v).alloc [] (T := (c.segs.map List.reverse).reverse) fun i hi => by
    simp only [List.mem_flatten, List.mem_reverse, List.mem_map] at hi
    obtain ⟨s, ⟨s0, hs0, rfl⟩, his⟩ := hi
    exact Or.inl ⟨c, hl, List.mem_flatten.mpr ⟨s0, hs0, by simpa using his⟩⟩

theorem upd_len {h : Heap} {v : Nat} {c : HCurve} (hl : h.lookup v = some c) :
    Upd h v h { c with cache := some (h.geom c) } where
  vars_eq := rfl
  len_le := Nat.le_refl _
  frame := fun _ _ _ => rfl
  ids := fun i hi => Or.inl ⟨c, hl, hi⟩
  cache := by intro g hg; cases hg; rfl

theorem copyCurve_eq (h : Heap) (c : HCurve) :
    h.copyCurve c = (⟨h.cells ++ (ids c).map h.cell, h.vars⟩,
      ⟨c.segs.map fun s => s.map fun i => h.cells.length + (ids c).idxOf i, none⟩) := rfl

theorem copyCurve_fresh (h : Heap) (c : HCurve) :
    ∀ i ∈ (h.copyCurve c).2.segs.flatten, h.cells.length ≤ i ∧ i < (h.copyCurve c).1.cells.length := by
  intro i hi
  rw [copyCurve_eq] at hi ⊢
  simp only [List.mem_flatten, List.mem_map] at hi
  obtain ⟨s, ⟨s0, hs0, rfl⟩, his⟩ := hi
  obtain ⟨j, hj, rfl⟩ := List.mem_map.mp his
  have := List.idxOf_lt_length_iff.mpr ((mem_ids c j).mpr (List.mem_flatten.mpr ⟨s0, hs0, hj⟩))
  simp only [List.length_append, List.length_map]
  omega

theorem upd_copy (h : Heap) (d : Nat) (c : HCurve) : Upd h d (h.copyCurve c).1 (h.copyCurve c).2 :=
  (Upd.nil h d).alloc _ fun i hi => Or.inr (by simpa [copyCurve_eq] using copyCurve_fresh h c i hi)

theorem geom_copyCurve (h : Heap) (c : HCurve) : (h.copyCurve c).1.geom (h.copyCurve c).2 = h.geom c := by
  rw [copyCurve_eq]
  refine map_map_congr_comp fun j hj => ?_
  have hlt := List.idxOf_lt_length_iff.mpr ((mem_ids c j).mpr hj)
  simp only [cell]
  rw [getD_append_ge]
  simp [List.getD_eq_getElem?_getD, hlt, List.getElem_idxOf, cell]

/-! ### `split`: the fold that inserts fresh junction cells -/

/-- the body of the fold in `step (.split ..)`, named so that it can be reasoned about -/
def splitStep (kept : List (Nat × Rat)) (acc : Heap × List (List Nat)) :
    List Nat × Nat → Heap × List (List Nat)
  | (s, i) =>
    let ns := dedupNodes (sortRat ((kept.filter fun (k, _) => k == i).map (·.2)))
    match s with
    | [a, b] =>
      let pa := acc.1.cell a; let pb := acc.1.cell b
      let (hh, base) := acc.1.alloc (ns.map fun t => lerp pa pb t)
      let mids := (List.range ns.length).map (base + ·)
      (hh, acc.2 ++ Misc.chainSegs (a :: mids ++ [b]))
    | _ => (acc.1, acc.2 ++ [s])

def splitFold (h : Heap) (c : HCurve) (pairs : List (Nat × Rat)) : Heap × List (List Nat) :=
  c.segs.zipIdx.foldl (splitStep (pairs.filter fun (_, t) => keepNode t)) (h, [])

theorem step_split (h : Heap) (v : Nat) (pairs : List (Nat × Rat)) :
    h.step (.split v pairs) = match h.lookup v with
      | none => (h, "novar")
      | some c => ((splitFold h c pairs).1.setVar v ⟨(splitFold h c pairs).2, none⟩, "ok") := rfl

/-- the fold of `split` maintains `Upd`: every step is an allocation -/
theorem upd_split {h : Heap} {v : Nat} {c : HCurve} (hl : h.lookup v = some c) (pairs : List (Nat × Rat)) :
    Upd h v (splitFold h c pairs).1 ⟨(splitFold h c pairs).2, none⟩ := by
  unfold splitFold
  refine List.foldlRecOn (motive := fun acc => Upd h v acc.1 ⟨acc.2, none⟩) (b := (h, [])) _ _ (Upd.nil h v)
    fun ⟨H, S⟩ P ⟨s, k⟩ hsi => ?_
  -- an id of the segment itself is an id of the curve
  have hown : ∀ i ∈ s, ∃ c, h.lookup v = some c ∧ i ∈ c.segs.flatten := fun i hi =>
    ⟨c, hl, List.mem_flatten.mpr ⟨s, List.fst_mem_of_mem_zipIdx hsi, hi⟩⟩
  simp only [splitStep]
  split
  · refine P.alloc _ fun i hi => ?_
    rw [List.length_map]
    exact (Misc.mem_freshChain hi).imp_left (hown i)
  · simpa using P.alloc [] (T := [s]) fun i hi => Or.inl (hown i (by simpa using hi))

/-- the case analysis of a step: what holds of the heap as it is, and of every rebinding of the target to a curve
over cells that the target owned or that are fresh, holds after the step -/
theorem step_cases {motive : Heap → Prop} {h : Heap} (op : HeapOp) (same : motive h)
    (upd : ∀ h' c', Upd h op.target h' c' → motive (h'.setVar op.target c')) : motive (h.step op).1 := by
  cases op with
  | poly v vs => exact upd _ _ (upd_poly h v vs)
  | move v _ | scale v _ _ | rot v _ _ =>
    cases hl : h.lookup v with
    | none => simpa only [step, hl] using same
    | some c => simpa only [step, hl, HeapOp.target] using upd _ _ (upd_map hl _)
  | invert v =>
    cases hl : h.lookup v with
    | none => simpa only [step, hl] using same
    | some c => simpa only [step, hl, HeapOp.target] using upd _ _ (upd_invert hl)
  | copy d s | adopt d s =>
    cases hl : h.lookup s with
    | none => simpa only [step, hl] using same
    | some c => simpa only [step, hl, HeapOp.target] using upd _ _ (upd_copy h d c)
  | len v =>
    cases hl : h.lookup v with
    | none => simpa only [step, hl] using same
    | some c =>
      cases hg : c.cache with
      | some g => simpa only [step, hl, hg] using same
      | none => simpa only [step, hl, hg, HeapOp.target] using upd _ _ (upd_len hl)
  | split v pairs =>
    cases hl : h.lookup v with
    | none => simpa only [step_split, hl] using same
    | some c => simpa only [step_split, hl, HeapOp.target] using upd _ _ (upd_split hl pairs)

theorem WF.step {h : Heap} (hw : h.WF) (op : HeapOp) : (h.step op).1.WF :=
  step_cases op hw fun _ _ u => u.wf hw

theorem Sep.step {h : Heap} (hw : h.WF) (hs : h.Sep) (op : HeapOp) : (h.step op).1.Sep :=
  step_cases op hs fun _ _ u => u.sep hw hs

theorem CacheOK.step {h : Heap} (hw : h.WF) (hs : h.Sep) (hc : h.CacheOK) (op : HeapOp) :
    (h.step op).1.CacheOK :=
  step_cases op hc fun _ _ u => u.cacheOK hw hs hc

structure Inv (h : Heap) : Prop where
  wf : h.WF
  sep : h.Sep
  cache : h.CacheOK

theorem Inv.init : init.Inv := ⟨WF.init, Sep.init, CacheOK.init⟩

theorem Inv.step {h : Heap} (I : h.Inv) (op : HeapOp) : (h.step op).1.Inv :=
  ⟨I.wf.step op, I.sep.step I.wf op, I.cache.step I.wf I.sep op⟩

theorem Inv.runOps {h : Heap} (I : h.Inv) (ops : List HeapOp) : (h.runOps ops).Inv := by
  induction ops generalizing h with
  | nil => exact I
  | cons op rest ih => exact ih (I.step op)

def Reachable (h : Heap) : Prop := ∃ ops, h = init.runOps ops

theorem Reachable.inv {h : Heap} (r : h.Reachable) : h.Inv := by
  obtain ⟨ops, rfl⟩ := r; exact Inv.init.runOps ops

/-! ### what an operation does to the geometry of a variable -/

theorem frame_step {h : Heap} (hw : h.WF) (hs : h.Sep) (op : HeapOp) {w : Nat} (hne : op.target ≠ w) :
    (h.step op).1.view w = h.view w :=
  step_cases (motive := fun h1 => h1.view w = h.view w) op rfl fun _ _ u => u.frame_other hw hs hne

/-- what operations with `Q` keep, one by one, holds along a history of them -/
theorem runOps_induction {P : Heap → Prop} {Q : HeapOp → Prop}
    (hstep : ∀ {h : Heap}, h.WF → h.Sep → P h → ∀ op, Q op → P (h.step op).1) :
    ∀ (ops : List HeapOp) {h : Heap}, h.WF → h.Sep → P h → (∀ op ∈ ops, Q op) → P (h.runOps ops)
  | [], _, _, _, hp, _ => hp
  | op :: rest, _, hw, hs, hp, hq =>
    runOps_induction hstep rest (hw.step op) (hs.step hw op) (hstep hw hs hp op (hq op List.mem_cons_self))
      fun o ho => hq o (List.mem_cons_of_mem _ ho)

theorem frame_runOps {h : Heap} (hw : h.WF) (hs : h.Sep) {w : Nat} (ops : List HeapOp)
    (hne : ∀ op ∈ ops, op.target ≠ w) : (h.runOps ops).view w = h.view w :=
  runOps_induction (P := fun h' => h'.view w = h.view w) (fun hw hs hp op hq => (frame_step hw hs op hq).trans hp)
    ops hw hs rfl hne

theorem view_step_len (h : Heap) (v : Nat) : (h.step (.len v)).1.view v = h.view v := by
  cases hl : h.lookup v with
  | none => simp only [step, hl]
  | some c =>
    cases hg : c.cache with
    | some g => simp only [step, hl, hg]
    | none => simp only [step, hl, hg]; rw [view_setVar_self, view, hl]; rfl

theorem view_step_copy {h : Heap} (d : Nat) {s : Nat} {c : HCurve} (hl : h.lookup s = some c) :
    (h.step (.copy d s)).1.view d = some (h.geom c) := by
  simp only [step, hl]
  rw [view_setVar_self, geom_copyCurve]

theorem view_step_ptMap {h : Heap} (hw : h.WF) {op : HeapOp} {f : Pt → Pt} (hf : op.ptMap = some f)
    {c : HCurve} (hl : h.lookup op.target = some c) :
    (h.step op).1.view op.target = some (Jordan.map f (h.geom c)) := by
  cases op with
  | move v _ | scale v _ _ | rot v _ _ =>
    cases hf
    simp only [HeapOp.target] at hl ⊢
    simp only [step, hl]
    rw [view_setVar_self, geom_mapCells h c (hw.bound _ c (lookup_mem hl))]
  | _ => cases hf

theorem view_roundtrip {h : Heap} (hw : h.WF) {op op' : HeapOp} {f g : Pt → Pt} (hf : op.ptMap = some f)
    (hg : op'.ptMap = some g) (ht : op'.target = op.target) (hgf : ∀ p, g (f p) = p) {c : HCurve}
    (hl : h.lookup op.target = some c) : ((h.step op).1.step op').1.view op.target = some (h.geom c) := by
  obtain ⟨c1, hl1, h1⟩ := view_eq_some_iff.mp (view_step_ptMap hw hf hl)
  have cancel : Jordan.map g (Jordan.map f (h.geom c)) = h.geom c := by
    simp [Jordan.map, List.map_map, Function.comp_def, hgf]
  rw [← ht] at hl1 ⊢
  rw [view_step_ptMap (hw.step _) hg hl1, h1, cancel]

end Heap
end ShapeVerif
