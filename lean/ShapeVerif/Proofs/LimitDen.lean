/- `Fraction.limit_denominator` (model: `limitDenominator`): the loop invariant of CPython's continued-fraction
algorithm, the size of the denominator it returns and how far it moves a number -/
import ShapeVerif.Model.Basic
import Mathlib.Tactic.Ring
import Mathlib.Tactic.Linarith
import Mathlib.Algebra.Order.Ring.Abs
import Mathlib.Algebra.Order.Field.Basic
import Mathlib.Data.Rat.Defs

namespace ShapeVerif

/-- the state on which the loop of `limitDenominator r maxd` stops -/
def ldState (r : Rat) (maxd : Nat) : Int × Int × Int × Int × Int × Int :=
  ldLoop maxd (r.den + 2) 0 1 1 0 r.num r.den

/-- `limitDenominator r maxd` returns `r` itself or the last convergent `p1/q1` (the first branch of
the final `if` of `limit_denominator`), not the semiconvergent `(p0 + k p1)/(q0 + k q1)` -/
def ldPicksConvergent (r : Rat) (maxd : Nat) : Prop :=
  r.den ≤ maxd ∨
    2 * (ldState r maxd).2.2.2.2.2 * ((ldState r maxd).2.1
      + ((maxd : Int) - (ldState r maxd).2.1) / (ldState r maxd).2.2.2.1 * (ldState r maxd).2.2.2.1)
      ≤ (r.den : Int)

instance (r : Rat) (maxd : Nat) : Decidable (ldPicksConvergent r maxd) := by
  unfold ldPicksConvergent; infer_instance

namespace LimitDen

theorem absR_eq_abs (x : Rat) : absR x = |x| := by
  unfold absR
  split_ifs with h
  · exact (abs_of_neg h).symm
  · exact (abs_of_nonneg (not_lt.mp h)).symm

theorem absR_nonneg (x : Rat) : 0 ≤ absR x := by
  rw [absR_eq_abs]; exact abs_nonneg x

/-- the remainder `n mod d` as the loop writes it -/
theorem rem_bounds (n d : Int) (hd : 0 < d) : 0 ≤ n - n / d * d ∧ n - n / d * d < d := by
  rw [mul_comm, ← Int.emod_def]
  exact ⟨Int.emod_nonneg n hd.ne', Int.emod_lt_of_pos n hd⟩

/-- for `r = N / D`, on the state `(p0,q0,p1,q1,n,d)`: `N/D = (n p1 + d p0) / (n q1 + d q0)` written without division,
numerator and denominator apart, and `p0/q0`, `p1/q1` are neighbours, `p1 q0 − p0 q1 = ±1`.  The loop's step is
`shift (n / d)` followed by `swap`; the semiconvergent of the final `if` is `shift ((maxd - q0) / q1)`, and its two
candidates are `p1/q1` of that state and of the swapped one -/
structure Lin (N D p0 q0 p1 q1 n d : Int) : Prop where
  num : N = n * p1 + d * p0
  den : D = n * q1 + d * q0
  det : (p1 * q0 - p0 * q1) ^ 2 = 1

variable {N D maxd p0 q0 p1 q1 n d : Int}

theorem Lin.shift (h : Lin N D p0 q0 p1 q1 n d) (k : Int) :
    Lin N D (p0 + k * p1) (q0 + k * q1) p1 q1 (n - k * d) d :=
  ⟨by rw [h.num]; ring, by rw [h.den]; ring, by rw [← h.det]; ring⟩

theorem Lin.swap (h : Lin N D p0 q0 p1 q1 n d) : Lin N D p1 q1 p0 q0 d n :=
  ⟨by rw [h.num]; ring, by rw [h.den]; ring, by rw [← h.det]; ring⟩

/-- `p1/q1` lies at the distance `d / (q1 D)` from `N/D`; which sign `p1 q0 − p0 q1` has is never asked -/
theorem Lin.abs_err (h : Lin N D p0 q0 p1 q1 n d) (hd : 0 ≤ d) : |p1 * D - q1 * N| = d := by
  have e : (p1 * D - q1 * N) ^ 2 = (p1 * q0 - p0 * q1) ^ 2 * d ^ 2 := by rw [h.num, h.den]; ring
  rw [h.det, one_mul] at e
  rw [← abs_of_nonneg hd]
  exact (sq_eq_sq_iff_abs_eq_abs _ d).mp e

/-- invariant of the continued-fraction loop (valid after its first step) -/
structure Inv (N D maxd : Int) (p0 q0 p1 q1 n d : Int) : Prop extends Lin N D p0 q0 p1 q1 n d where
  hq0 : 0 ≤ q0
  hq1 : 1 ≤ q1
  hq1m : q1 ≤ maxd
  hd0 : 0 ≤ d
  hdn : d < n

/-- the loop stops on a state that satisfies the invariant, for one of its two reasons: the remainder `d` decreases,
so `fuel > d` iterations are never used up -/
theorem ldLoop_exit (N D maxd : Int) (fuel : Nat) (p0 q0 p1 q1 n d : Int) (h : Inv N D maxd p0 q0 p1 q1 n d)
    (hf : d < (fuel : Int)) :
    ∃ p0' q0' p1' q1' n' d', ldLoop maxd fuel p0 q0 p1 q1 n d = (p0', q0', p1', q1', n', d')
      ∧ Inv N D maxd p0' q0' p1' q1' n' d' ∧ (d' = 0 ∨ maxd < q0' + n' / d' * q1') := by
  fun_induction ldLoop maxd fuel p0 q0 p1 q1 n d with
  | case1 => exact absurd hf (not_lt.mpr h.hd0)
  | case2 => exact ⟨_, _, _, _, _, _, rfl, h, Or.inl rfl⟩
  | case3 => exact ⟨_, _, _, _, _, _, rfl, h, Or.inr (by assumption)⟩
  | case4 fuel p0 q0 p1 q1 n d hd a q2 hq ih =>
    have hdpos : 0 < d := lt_of_le_of_ne h.hd0 (Ne.symm hd)
    have ha : 1 ≤ n / d := Int.le_ediv_of_mul_le hdpos (by have := h.hdn; omega)
    obtain ⟨hm0, hm1⟩ := rem_bounds n d hdpos
    exact ih
      ⟨(h.toLin.shift (n / d)).swap, zero_le_one.trans h.hq1,
        le_add_of_nonneg_of_le h.hq0 (one_le_mul_of_one_le_of_one_le ha h.hq1), not_lt.mp hq, hm0, hm1⟩
      (hm1.trans_le (Int.lt_add_one_iff.mp (by exact_mod_cast hf)))

theorem ldLoop_first (maxd : Int) (h1 : 1 ≤ maxd) (fuel : Nat) (num den : Int) (hden : 0 < den) :
    ldLoop maxd (fuel + 1) 0 1 1 0 num den = ldLoop maxd fuel 1 0 (num / den) 1 den (num - num / den * den) := by
  simp only [ldLoop, mul_zero, add_zero, mul_one, zero_add]
  rw [if_neg (ne_of_gt hden), if_neg (not_lt.mpr h1)]

theorem inv_first (N D maxd : Int) (hD : 0 < D) (hm : 1 ≤ maxd) :
    Inv N D maxd 1 0 (N / D) 1 D (N - N / D * D) := by
  obtain ⟨hm0, hm1⟩ := rem_bounds N D hD
  exact ⟨⟨by ring, by ring, by ring⟩, le_refl _, le_refl _, hm, hm0, hm1⟩

/-! The two candidates `p1/q1` and `P/Q` (`Q = q0 + k q1` the largest such denominator `≤ maxd`) lie on either side of `N/D`,
at the distance `1/(Q q1)` from each other, and the final `if` takes the nearer one: its error is at most `1/(2 Q q1)`,
and `maxd ≤ Q q1` because `maxd < Q + q1`. -/

/-- the numbers available when the loop has stopped: `k = (maxd - q0) / q1`, `Q = q0 + k q1`, `m = n - k d` -/
theorem exit_arith (maxd q0 q1 n d : Int) (hq1 : 1 ≤ q1) (hq1m : q1 ≤ maxd) (hd0 : 0 ≤ d) (hdn : d < n)
    (hx : d = 0 ∨ maxd < q0 + n / d * q1) :
    1 ≤ q0 + (maxd - q0) / q1 * q1 ∧ q0 + (maxd - q0) / q1 * q1 ≤ maxd
    ∧ maxd < q0 + (maxd - q0) / q1 * q1 + q1 ∧ d ≤ n - (maxd - q0) / q1 * d := by
  have hq1pos : 0 < q1 := Int.lt_of_lt_of_le Int.zero_lt_one hq1
  obtain ⟨hk1, hk2⟩ := rem_bounds (maxd - q0) q1 hq1pos
  refine ⟨by omega, by omega, by omega, ?_⟩
  -- `(k + 1) d ≤ n`: trivially if `d = 0`, otherwise because `k < n / d`
  rcases eq_or_lt_of_le hd0 with rfl | hdpos
  · omega
  · have hx := hx.resolve_left (ne_of_gt hdpos)
    have hka : (maxd - q0) / q1 < n / d := Int.ediv_lt_of_lt_mul hq1pos (by omega)
    have := (Int.le_ediv_iff_mul_le hdpos).mp (Int.add_one_le_of_lt hka)
    rw [Int.add_mul, Int.one_mul] at this
    omega

/-- `p1/q1` when it is the nearer candidate (`hc`: with `D = n q1 + d q0` it says `d q0 ≤ n q1`) and there is no room
for a larger denominator (`hW`) -/
theorem Lin.near (h : Lin N D p0 q0 p1 q1 n d) (hd : 0 ≤ d) (hq : 0 ≤ q1) (hW : maxd ≤ q0 * q1)
    (hc : 2 * d * q0 ≤ D) : |p1 * D - q1 * N| * (2 * maxd) ≤ q1 * D := by
  have a := mul_nonneg hd (sub_nonneg.mpr hW)
  have b := mul_nonneg hq (sub_nonneg.mpr hc)
  rw [h.abs_err hd]; linarith

/-- the fraction returned and its distance from `N/D` -/
theorem exit_choice (h : Inv N D maxd p0 q0 p1 q1 n d) (hx : d = 0 ∨ maxd < q0 + n / d * q1) :
    ∃ P Q : Int, 0 < Q ∧ Q ≤ maxd
      ∧ (if 2 * d * (q0 + (maxd - q0) / q1 * q1) ≤ D then (p1 : Rat) / (q1 : Rat)
          else ((p0 + (maxd - q0) / q1 * p1 : Int) : Rat) / ((q0 + (maxd - q0) / q1 * q1 : Int) : Rat))
        = (P : Rat) / (Q : Rat)
      ∧ |P * D - Q * N| * (2 * maxd) ≤ Q * D
      ∧ (2 * d * (q0 + (maxd - q0) / q1 * q1) ≤ D → |P * D - Q * N| * maxd ≤ D) := by
  obtain ⟨h, -, hq1, hq1m, hd0, hdn⟩ := h
  obtain ⟨hQ, hQm, hQq, hmd⟩ := exit_arith maxd q0 q1 n d hq1 hq1m hd0 hdn hx
  replace h := h.shift ((maxd - q0) / q1)
  generalize (maxd - q0) / q1 = k at *
  have hW : maxd ≤ (q0 + k * q1) * q1 := by
    have := mul_nonneg (sub_nonneg.mpr hQ) (sub_nonneg.mpr hq1)
    linarith
  by_cases hc : 2 * d * (q0 + k * q1) ≤ D
  · -- the last convergent `p1/q1`
    refine ⟨p1, q1, zero_lt_one.trans_le hq1, hq1m, by rw [if_pos hc], h.near hd0 (zero_le_one.trans hq1) hW hc, fun _ => ?_⟩
    have a1 := mul_nonneg hd0 (sub_nonneg.mpr hQq.le)
    have a2 := mul_nonneg (sub_nonneg.mpr hmd) (zero_le_one.trans hq1)
    rw [h.abs_err hd0]; linarith [h.den]
  · -- the semiconvergent; `hc` says `(n - k d) q1 < d Q`
    exact ⟨p0 + k * p1, q0 + k * q1, zero_lt_one.trans_le hQ, hQm, by rw [if_neg hc],
      h.swap.near (hd0.trans hmd) (zero_le_one.trans hQ) (by rwa [mul_comm]) (by linarith [h.den]),
      fun hp => absurd hp hc⟩

theorem den_div_le (a b : Int) (hb : 0 < b) : (((a : Rat) / (b : Rat)).den : Int) ≤ b := by
  have h : ((a : Rat) / (b : Rat)) = Rat.divInt a b := (Rat.divInt_eq_div a b).symm
  rw [h]
  exact Int.le_of_dvd hb (Rat.den_dvd a b)

/-- the distance of `P/Q` from `N/D` is `|P D − Q N| / (Q D)` -/
theorem err_mul_le {P Q N D c : Int} (hQ : 0 < Q) (hD : 0 < D) (h : |P * D - Q * N| * c ≤ Q * D) :
    absR ((P : Rat) / (Q : Rat) - (N : Rat) / (D : Rat)) * (c : Rat) ≤ 1 := by
  have hQ' : (0 : Rat) < (Q : Rat) := Int.cast_pos.mpr hQ
  have hD' : (0 : Rat) < (D : Rat) := Int.cast_pos.mpr hD
  rw [absR_eq_abs, div_sub_div _ _ (ne_of_gt hQ') (ne_of_gt hD'), abs_div, abs_of_pos (mul_pos hQ' hD'),
    div_mul_eq_mul_div, div_le_one (mul_pos hQ' hD')]
  exact_mod_cast h

/-- all three bounds at once, for C13/C13c.  Route: after the first iteration (`ldLoop_first`) the invariant holds
(`inv_first`); `ldLoop_exit` carries it to the state on which the loop stops; `exit_choice` is the integer arithmetic of
the final `if` on that state; `den_div_le` and `err_mul_le` carry its two results to ℚ -/
theorem ld_core (r : Rat) (maxd : Nat) (h1 : 1 ≤ maxd) :
    (limitDenominator r maxd).den ≤ maxd
      ∧ absR (limitDenominator r maxd - r) * (2 * (maxd : Rat)) ≤ 1
      ∧ (ldPicksConvergent r maxd →
          absR (limitDenominator r maxd - r) * ((limitDenominator r maxd).den : Rat) * (maxd : Rat) ≤ 1) := by
  by_cases h : r.den ≤ maxd
  · have e : limitDenominator r maxd = r := by unfold limitDenominator; rw [if_pos h]
    rw [e, sub_self, absR_eq_abs, abs_zero, zero_mul, zero_mul, zero_mul]
    exact ⟨h, zero_le_one, fun _ => zero_le_one⟩
  · have hden : (0 : Int) < (r.den : Int) := by exact_mod_cast r.den_pos
    have hm : (1 : Int) ≤ (maxd : Int) := by exact_mod_cast h1
    obtain ⟨p0, q0, p1, q1, n, d, hres, hinv, hx⟩ :=
      ldLoop_exit r.num (r.den : Int) (maxd : Int) (r.den + 1) _ _ _ _ _ _
        (inv_first r.num (r.den : Int) (maxd : Int) hden hm)
        (by have := (rem_bounds r.num (r.den : Int) hden).2; push_cast; omega)
    rw [← ldLoop_first (maxd : Int) hm (r.den + 1) r.num (r.den : Int) hden] at hres
    obtain ⟨P, Q, hQ, hQm, hPQ, hw, hs⟩ := exit_choice hinv hx
    have e : limitDenominator r maxd = (P : Rat) / (Q : Rat) := by
      unfold limitDenominator; rw [if_neg h, hres]; exact hPQ
    have hq : ((limitDenominator r maxd).den : Int) ≤ Q := e ▸ den_div_le P Q hQ
    have herr := @err_mul_le P Q r.num (r.den : Int)
    rw [Int.cast_natCast, Rat.num_div_den, ← e] at herr
    refine ⟨by exact_mod_cast hq.trans hQm, by exact_mod_cast herr hQ hden hw, fun hp => ?_⟩
    rw [ldPicksConvergent, ldState, hres] at hp
    have := herr (c := (limitDenominator r maxd).den * maxd) hQ hden (by
      rw [mul_left_comm]
      exact mul_le_mul hq (hs (hp.resolve_left h)) (mul_nonneg (abs_nonneg _) (Int.natCast_nonneg _)) hQ.le)
    rw [mul_assoc]; exact_mod_cast this

theorem _root_.ShapeVerif.Geom.limitDenominator_den_le (r : Rat) (maxd : Nat) (h1 : 1 ≤ maxd) :
    (limitDenominator r maxd).den ≤ maxd := (ld_core r maxd h1).1

end LimitDen

end ShapeVerif
