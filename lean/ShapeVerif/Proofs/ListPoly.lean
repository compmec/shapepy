/- Polynomials as coefficient lists (`peval`, `padd`, `pmul`, `ppow`, `pderiv`, … of Model/Quadrature): evaluation on
`cons` and on a list given by its entries, evaluation is a homomorphism.  Degrees are counted in `ℚ[X]`
(Proofs/PolyBridge), not as lengths here. -/
import ShapeVerif.Model.Quadrature
import ShapeVerif.Proofs.PolyEvalAttr
import Mathlib.Tactic.Ring
import Mathlib.Algebra.BigOperators.Group.List.Basic
import Mathlib.Algebra.BigOperators.Ring.Finset

namespace ShapeVerif

attribute [polyEval] ppow pmul padd pscale pmulX pderiv pint01 List.zipIdx_cons List.zipIdx_nil List.map_cons List.map_nil
  List.sum_cons List.sum_nil

theorem peval_nil (t : Rat) : peval [] t = 0 := rfl
theorem peval_cons (c : Rat) (p : List Rat) (t : Rat) : peval (c :: p) t = c + t * peval p t := rfl

theorem peval_map_range (g : Nat → Rat) (m : Nat) (t : Rat) :
    peval ((List.range m).map g) t = ∑ k ∈ Finset.range m, g k * t ^ k := by
  induction m generalizing g with
  | zero => rfl
  | succ m ih =>
    rw [List.range_succ_eq_map, List.map_cons, List.map_map, peval_cons, ih, Finset.sum_range_succ', Finset.mul_sum, add_comm]
    simp only [Function.comp, pow_succ, pow_zero, mul_one]
    congr 1
    exact Finset.sum_congr rfl fun i _ => by ring

theorem pderiv_map_range (g : Nat → Rat) (m : Nat) :
    pderiv ((List.range (m + 1)).map g) = (List.range m).map fun k => ((k + 1 : Nat) : Rat) * g (k + 1) := by
  rw [List.range_succ_eq_map, List.map_cons, pderiv]
  apply List.ext_getElem <;> simp

theorem peval_padd (p q : List Rat) (t : Rat) : peval (padd p q) t = peval p t + peval q t := by
  induction p generalizing q with
  | nil => simp [padd, peval_nil]
  | cons a p ih =>
    cases q with
    | nil => simp [padd, peval_nil]
    | cons b q => simp only [padd, peval_cons, ih]; ring

theorem peval_pscale (k : Rat) (p : List Rat) (t : Rat) : peval (pscale k p) t = k * peval p t := by
  induction p with
  | nil => simp [pscale, peval_nil]
  | cons a p ih =>
    have : pscale k (a :: p) = (k * a) :: pscale k p := rfl
    rw [this, peval_cons, peval_cons, ih]; ring

theorem peval_pmulX (p : List Rat) (t : Rat) : peval (pmulX p) t = t * peval p t := by
  simp [pmulX, peval_cons]

theorem peval_pmul (p q : List Rat) (t : Rat) : peval (pmul p q) t = peval p t * peval q t := by
  induction p with
  | nil => simp [pmul, peval_nil]
  | cons a p ih => simp only [pmul, peval_padd, peval_pscale, peval_pmulX, peval_cons, ih]; ring

theorem peval_ppow (p : List Rat) (k : Nat) (t : Rat) : peval (ppow p k) t = (peval p t) ^ k := by
  induction k with
  | zero => simp [ppow, peval_cons, peval_nil]
  | succ k ih => simp only [ppow, peval_pmul, ih]; ring

theorem peval_pmulLin (p : List Rat) (r t : Rat) : peval (pmulLin p r) t = peval p t * (t - r) := by
  simp only [pmulLin, peval_padd, peval_pmulX, peval_pscale]; ring

theorem length_padd : ∀ p q : List Rat, (padd p q).length = max p.length q.length
  | [], q => by rw [padd, List.length_nil, Nat.zero_max]
  | _ :: _, [] => (Nat.max_zero _).symm
  | a :: p, b :: q => by
    rw [padd, List.length_cons, length_padd p q, List.length_cons, List.length_cons, Nat.add_max_add_right]

theorem length_pscale (k : Rat) (p : List Rat) : (pscale k p).length = p.length := by simp [pscale]

theorem length_pmulX (p : List Rat) : (pmulX p).length = p.length + 1 := by simp [pmulX]

theorem length_pmul_le (p q : List Rat) (hq : 1 ≤ q.length) :
    (pmul p q).length ≤ p.length + q.length - 1 := by
  induction p with
  | nil => simp [pmul]
  | cons a p ih =>
    simp only [pmul, length_padd, length_pscale, length_pmulX, List.length_cons]
    omega

theorem length_coordPoly (cs : List Rat) : (coordPoly cs).length = cs.length - 1 + 1 := by
  simp [coordPoly, canonCoefs]

end ShapeVerif
