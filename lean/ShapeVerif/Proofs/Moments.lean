/- Boundary integrals in closed form (Green anchors): the integral of `x^a y^b dy` over a straight edge for the exponents
of the moments up to order two, triangles, and the area between a quadratic or cubic arc and its chord. -/
import ShapeVerif.Model.Jordan
import ShapeVerif.Proofs.Bezier
import ShapeVerif.Proofs.Pt
import ShapeVerif.Proofs.Chain

namespace ShapeVerif

/-! ### straight edges, triangles, curved anchors -/

/-- the axis-parallel rectangle `[x0,x1] × [y0,y1]`: `JordanCurve.from_vertices` on the corners, counter-clockwise from
`(x0, y0)` -/
def rect (x0 y0 x1 y1 : Rat) : Jordan := Jordan.fromVertices [⟨x0, y0⟩, ⟨x1, y0⟩, ⟨x1, y1⟩, ⟨x0, y1⟩]

/-- twice the signed area of the triangle `p q r` -/
def triCross (p q r : Pt) : Rat := (q.x - p.x) * (r.y - p.y) - (q.y - p.y) * (r.x - p.x)

theorem cross_eq_triCross (p q x : Pt) : Pt.cross (q - p) (x - p) = triCross p q x := by
  simp only [Pt.cross, Geom.Pt.sub_x, Geom.Pt.sub_y, triCross]

/-- the integral over a straight edge on coefficient lists, to compute with literal exponents -/
theorem exactVertical_edge_list (p q : Pt) (a b : Nat) :
    exactVertical [p, q] a b
      = pint01 (pmul (pmul (ppow [p.x, q.x - p.x] a) (ppow [p.y, q.y - p.y] b)) [q.y - p.y]) := by
  simp only [exactVertical, Seg.xs, Seg.ys, List.map_cons, List.map_nil, coordPoly_two, pderiv, List.zipIdx_cons,
    List.zipIdx_nil, Nat.zero_add, Nat.cast_one, one_mul]

theorem exactVertical_line_00 (p q : Pt) : exactVertical [p, q] 0 0 = q.y - p.y := by
  simp only [exactVertical_edge_list, polyEval]
  ring

/-! exact integrals of one straight edge for the exponents of the moments up to order two (`1 ≤ a`, `a + b ≤ 3`): literal
exponents unfolded by the defining equations (`polyEval`); `ring` evaluates the casts -/
theorem exactVertical_line_10 (p q : Pt) : exactVertical [p, q] 1 0 = (p.x + q.x) * (q.y - p.y) / 2 := by
  simp only [exactVertical_edge_list, polyEval]
  ring
theorem exactVertical_line_20 (p q : Pt) : exactVertical [p, q] 2 0 = (p.x ^ 2 + p.x * q.x + q.x ^ 2) * (q.y - p.y) / 3 := by
  simp only [exactVertical_edge_list, polyEval]
  ring
theorem exactVertical_line_11 (p q : Pt) :
    exactVertical [p, q] 1 1 = (p.x * (2 * p.y + q.y) + q.x * (p.y + 2 * q.y)) * (q.y - p.y) / 6 := by
  simp only [exactVertical_edge_list, polyEval]
  ring
theorem exactVertical_line_30 (p q : Pt) :
    exactVertical [p, q] 3 0 = (p.x + q.x) * (p.x ^ 2 + q.x ^ 2) * (q.y - p.y) / 4 := by
  simp only [exactVertical_edge_list, polyEval]
  ring
theorem exactVertical_line_21 (p q : Pt) :
    exactVertical [p, q] 2 1 = (p.x ^ 2 * (3 * p.y + q.y) + 2 * p.x * q.x * (p.y + q.y) + q.x ^ 2 * (p.y + 3 * q.y))
      * (q.y - p.y) / 12 := by
  simp only [exactVertical_edge_list, polyEval]
  ring
theorem exactVertical_line_12 (p q : Pt) :
    exactVertical [p, q] 1 2
      = (p.x * (3 * p.y ^ 2 + 2 * p.y * q.y + q.y ^ 2) + q.x * (p.y ^ 2 + 2 * p.y * q.y + 3 * q.y ^ 2))
        * (q.y - p.y) / 12 := by
  simp only [exactVertical_edge_list, polyEval]
  ring

theorem jordanExactVertical_triangle (p q r : Pt) (a b : Nat) :
    jordanExactVertical (Jordan.fromVertices [p, q, r]) a b
      = exactVertical [p, q] a b + exactVertical [q, r] a b + exactVertical [r, p] a b := by
  simp [jordanExactVertical, Jordan.fromVertices, add_assoc]
theorem jordanExactVertical_fromVertices4 (p q r s : Pt) (a b : Nat) :
    jordanExactVertical (Jordan.fromVertices [p, q, r, s]) a b
      = exactVertical [p, q] a b + exactVertical [q, r] a b + exactVertical [r, s] a b + exactVertical [s, p] a b := by
  simp [jordanExactVertical, Jordan.fromVertices, add_assoc]

theorem triangle_area (p q r : Pt) : Jordan.area (Jordan.fromVertices [p, q, r]) = triCross p q r / 2 := by
  rw [Jordan.area, jordanExactVertical_triangle, exactVertical_line_10, exactVertical_line_10, exactVertical_line_10, triCross]; ring
theorem area_fromVertices4 (a b c d : Pt) :
    Jordan.area (Jordan.fromVertices [a, b, c, d])
      = ((a.x + b.x) * (b.y - a.y) + (b.x + c.x) * (c.y - b.y) + (c.x + d.x) * (d.y - c.y)
          + (d.x + a.x) * (a.y - d.y)) / 2 := by
  rw [Jordan.area, jordanExactVertical_fromVertices4, exactVertical_line_10, exactVertical_line_10, exactVertical_line_10,
    exactVertical_line_10]
  ring
/-- first moments = area × centroid -/
theorem triangle_moment_10 (p q r : Pt) :
    Jordan.moment (Jordan.fromVertices [p, q, r]) 1 0 = triCross p q r / 2 * ((p.x + q.x + r.x) / 3) := by
  rw [Jordan.moment, jordanExactVertical_triangle, exactVertical_line_20, exactVertical_line_20, exactVertical_line_20, triCross]; ring
theorem triangle_moment_01 (p q r : Pt) :
    Jordan.moment (Jordan.fromVertices [p, q, r]) 0 1 = triCross p q r / 2 * ((p.y + q.y + r.y) / 3) := by
  rw [Jordan.moment, jordanExactVertical_triangle, exactVertical_line_11, exactVertical_line_11, exactVertical_line_11, triCross]; ring
theorem triangle_moment_20 (p q r : Pt) :
    Jordan.moment (Jordan.fromVertices [p, q, r]) 2 0
      = triCross p q r / 12 * (p.x ^ 2 + q.x ^ 2 + r.x ^ 2 + p.x * q.x + q.x * r.x + r.x * p.x) := by
  rw [Jordan.moment, jordanExactVertical_triangle, exactVertical_line_30, exactVertical_line_30, exactVertical_line_30, triCross]; ring
theorem triangle_moment_02 (p q r : Pt) :
    Jordan.moment (Jordan.fromVertices [p, q, r]) 0 2
      = triCross p q r / 12 * (p.y ^ 2 + q.y ^ 2 + r.y ^ 2 + p.y * q.y + q.y * r.y + r.y * p.y) := by
  rw [Jordan.moment, jordanExactVertical_triangle, exactVertical_line_12, exactVertical_line_12, exactVertical_line_12, triCross]; ring
theorem triangle_moment_11 (p q r : Pt) :
    Jordan.moment (Jordan.fromVertices [p, q, r]) 1 1
      = triCross p q r / 24 * (2 * (p.x * p.y + q.x * q.y + r.x * r.y) + p.x * q.y + q.x * p.y + q.x * r.y + r.x * q.y + r.x * p.y + p.x * r.y) := by
  rw [Jordan.moment, jordanExactVertical_triangle, exactVertical_line_21, exactVertical_line_21, exactVertical_line_21, triCross]; ring

theorem area_arc_chord (s : Seg) (p q : Pt) :
    Jordan.area [s, [p, q]] = exactVertical s 1 0 + (p.x + q.x) * (q.y - p.y) / 2 := by
  rw [← exactVertical_line_10]; simp [Jordan.area, jordanExactVertical]

theorem exactVertical_quadratic_10 (a b d : Pt) :
    exactVertical [a, b, d] 1 0
      = (a.x * (-3 * a.y + 2 * b.y + d.y) + 2 * b.x * (d.y - a.y) + d.x * (3 * d.y - 2 * b.y - a.y)) / 6 := by
  simp only [exactVertical, Seg.xs, Seg.ys, coordPoly_three, polyEval]
  ring

/-- a curved anchor (Archimedes): the region between a quadratic arc and its chord has 2/3 of the area of
the control triangle -/
theorem parabola_segment_area (p0 p1 p2 : Pt) :
    Jordan.area [[p0, p1, p2], [p2, p0]] = 2 / 3 * (triCross p0 p1 p2 / 2) := by
  rw [area_arc_chord, exactVertical_quadratic_10, triCross]
  ring

theorem cubic_segment_area (p0 p1 p2 p3 : Pt) :
    Jordan.area [[p0, p1, p2, p3], [p3, p0]]
      = 3 / 20 * (Pt.cross (p1 - p0) (p2 - p0) + Pt.cross (p1 - p0) (p3 - p0)
          + 2 * Pt.cross (p2 - p0) (p3 - p0)) := by
  rw [area_arc_chord]
  simp only [exactVertical, Seg.xs, Seg.ys, coordPoly_four, polyEval, Pt.cross, Geom.Pt.sub_x, Geom.Pt.sub_y]
  ring

end ShapeVerif
