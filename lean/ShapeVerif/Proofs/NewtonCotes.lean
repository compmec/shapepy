/- The open Newton–Cotes rule of the model (`quad`) is exact for EVERY number of nodes: it is the integral of the
Lagrange interpolant of the integrand on the (pairwise distinct) nodes (`quad_eq_Iint_interpolate`), and a polynomial of
degree `< n` is its own interpolant; reflection about 1/2 permutes the nodes, so the interpolant of `f(1 − ·)` is the
reflected interpolant of `f` and the rule is symmetric, which gains one degree for odd `n` (`q + q(1 − ·)` is its own
reflection, hence of even degree). -/
import ShapeVerif.Proofs.PolyBridge
import ShapeVerif.Proofs.Deriv
import ShapeVerif.Proofs.Chain
import Mathlib.LinearAlgebra.Lagrange

open Polynomial

namespace ShapeVerif

theorem quad_eq_sum (n : Nat) (f : Rat → Rat) :
    quad n f = (((openNodes n).zip (openWeights n)).map fun xw => xw.2 * f xw.1).sum := by
  rw [List.sum_eq_foldl, List.foldl_map]
  rfl

/-- the weighted sum written as the code writes it: the three value lists multiplied entry by entry, then the inner
product with the weights -/
theorem zip_pipeline_sum (N W : List Rat) (fx fy fd : Rat → Rat) :
    ((List.zip W ((List.zip (N.map fx) (List.zip (N.map fy) (N.map fd))).map fun abc => abc.1 * abc.2.1 * abc.2.2)).map
        fun wf => wf.1 * wf.2).sum
      = ((N.zip W).map fun xw => xw.2 * (fx xw.1 * fy xw.1 * fd xw.1)).sum := by
  rw [List.zip_map', List.zip_map', List.map_map, List.zip_map_right, ← List.zip_swap, List.map_map, List.map_map]
  rfl

theorem quad_add (n : Nat) (f g : Rat → Rat) : quad n (fun t => f t + g t) = quad n f + quad n g := by
  simp only [quad_eq_sum, mul_add, List.sum_map_add]

theorem quad_smul (n : Nat) (c : Rat) (f : Rat → Rat) : quad n (fun t => c * f t) = c * quad n f := by
  simp only [quad_eq_sum, mul_left_comm _ c, List.sum_map_mul_left]

theorem quad_congr (n : Nat) {f g : Rat → Rat} (h : ∀ t, f t = g t) : quad n f = quad n g :=
  congrArg (quad n) (funext h)

/-! ### the model's nodes and weights: the rule is the integral of the Lagrange interpolant on the nodes -/

/-- node `i` of the `n`-node rule -/
def openNode (n i : Nat) : Rat := ((2 * i + 1 : Nat) : Rat) / ((2 * n : Nat) : Rat)

theorem openNodes_eq (n : Nat) : openNodes n = (List.range n).map (openNode n) := rfl

theorem openNode_den_ne_zero {n : Nat} (hn : n ≠ 0) : ((2 * n : Nat) : Rat) ≠ 0 := by
  have : 2 * n ≠ 0 := by omega
  exact_mod_cast this

theorem openNode_injOn (n : Nat) : Set.InjOn (openNode n) (Finset.range n : Finset Nat) := by
  intro i hi j _ h
  unfold openNode at h
  rw [div_left_inj' (openNode_den_ne_zero (Nat.ne_zero_of_lt (Finset.mem_range.mp hi)))] at h
  have : 2 * i + 1 = 2 * j + 1 := by exact_mod_cast h
  omega

theorem toPoly_lagrangeNum (v : Nat → Rat) (m i : Nat) :
    toPoly (lagrangeNum ((List.range m).map v) i) = Lagrange.nodal ((Finset.range m).erase i) v := by
  rw [lagrangeNum, Lagrange.nodal, ← Finset.filter_ne', Finset.prod_filter]
  induction m with
  | zero => rw [Finset.prod_range_zero]; simp [toPoly]
  | succ m ih =>
    rw [List.range_succ, List.map_append, List.zipIdx_append, List.foldl_append, Finset.prod_range_succ, ← ih]
    by_cases h : m = i <;> simp [h, toPoly_pmulLin]

/-- the denominator is the numerator evaluated at the node: the two folds run in step (`peval_pmulLin`) -/
theorem lagrangeDen_eq_peval (nodes : List Rat) (i : Nat) :
    lagrangeDen nodes i = peval (lagrangeNum nodes i) (nodes.getD i 0) := by
  rw [lagrangeNum, ← List.foldl_hom (peval · (nodes.getD i 0))
    (g₂ := fun acc (x, j) => if j = i then acc else acc * (nodes.getD i 0 - x))]
  · simp [lagrangeDen, peval_cons, peval_nil]
  · intro p (x, j)
    dsimp only
    split
    · rfl
    · rw [peval_pmulLin]

/-- the weight the model computes is the integral of the Lagrange basis polynomial: that is the numerator
`N = ∏ (X − xⱼ)` over the constant `N(xᵢ)`, and a constant factor leaves `Iint` -/
theorem weight_eq (n i : Nat) (hi : i ∈ Finset.range n) :
    pint01 (lagrangeNum (openNodes n) i) / lagrangeDen (openNodes n) i
      = Iint (Lagrange.basis (Finset.range n) (openNode n) i) := by
  have hx : ((List.range n).map (openNode n)).getD i 0 = openNode n i := by simp [Finset.mem_range.mp hi]
  rw [Lagrange.basis_eq_prod_sub_inv_mul_nodal_div hi, ← Lagrange.nodal_erase_eq_nodal_div hi,
    Lagrange.nodalWeight_eq_eval_nodal_erase_inv, Iint_C_mul, ← toPoly_lagrangeNum, ← peval_eq_eval, ← hx,
    ← openNodes_eq, ← lagrangeDen_eq_peval, Iint_toPoly, div_eq_inv_mul]

theorem quad_eq_Iint_interpolate (n : Nat) (f : Rat → Rat) :
    quad n f = Iint (Lagrange.interpolate (Finset.range n) (openNode n) fun i => f (openNode n i)) := by
  rw [Lagrange.interpolate_apply, map_sum, quad_eq_sum, openWeights, openNodes_eq, List.zip_map', List.map_map]
  -- the sum of a list over `List.range n` is by definition the sum over `Finset.range n`
  exact Finset.sum_congr (s₁ := Finset.range n) rfl fun i hi => by
    rw [Iint_C_mul, ← weight_eq n i hi, mul_comm]; rfl

/-! ### exactness: a polynomial of degree `< n` is its own interpolant on the `n` distinct nodes -/

theorem quad_eval_poly (n : Nat) (q : Rat[X]) (hq : q.degree < (n : WithBot Nat)) :
    quad n (fun t => q.eval t) = Iint q := by
  rw [quad_eq_Iint_interpolate, ← Lagrange.eq_interpolate (openNode_injOn n) (by simpa using hq)]

theorem quad_exact_monomial (n k : Nat) (hk : k < n) : quad n (fun x => x ^ k) = 1 / ((k : Rat) + 1) := by
  rw [← Iint_X_pow, ← quad_eval_poly n (X ^ k) (by rw [degree_X_pow]; exact_mod_cast hk)]
  simp only [eval_pow, eval_X]

theorem openNode_reflect (n i : Nat) (hi : i < n) : openNode n (n - 1 - i) = 1 - openNode n i := by
  unfold openNode
  have h : (2 * (n - 1 - i) + 1) + (2 * i + 1) = 2 * n := by omega
  rw [eq_sub_iff_add_eq, ← add_div, div_eq_one_iff_eq (openNode_den_ne_zero (Nat.ne_zero_of_lt hi))]
  exact_mod_cast h

theorem degree_comp_reflect (q : Rat[X]) : (q.comp (1 - X)).degree = q.degree := by
  have h : (1 - X : Rat[X]).degree = 1 := by rw [reflect_eq_linear, degree_linear (by norm_num)]
  rw [degree_comp (h ▸ zero_lt_one), h, mul_one]

/-- the reflected interpolant of `f` has degree `< n` and at node `i` the value `f(x_{n-1-i}) = f(1 − xᵢ)`: it is the
interpolant of `f(1 − ·)`, and reflection leaves `Iint` -/
theorem quad_reflect (n : Nat) (f : Rat → Rat) : quad n (fun t => f (1 - t)) = quad n f := by
  rw [quad_eq_Iint_interpolate n f, ← Iint_comp_reflect, quad_eq_Iint_interpolate]
  refine congrArg Iint (Lagrange.eq_interpolate_of_eval_eq _ (openNode_injOn n) ?_ fun i hi => ?_).symm
  · rw [degree_comp_reflect]
    exact Lagrange.degree_interpolate_lt _ (openNode_injOn n)
  · have hi' : i < n := Finset.mem_range.mp hi
    rw [eval_comp, eval_sub, eval_one, eval_X, ← openNode_reflect n i hi',
      Lagrange.eval_interpolate_at_node _ (openNode_injOn n) (Finset.mem_range.mpr (by omega)), openNode_reflect n i hi']

/-- a polynomial that is its own reflection has even degree: reflection multiplies the leading coefficient by
`(−1)^deg` -/
theorem even_natDegree_of_comp_reflect {s : Rat[X]} (hs : s.comp (1 - X) = s) (hs0 : s ≠ 0) : Even s.natDegree := by
  have h := leadingCoeff_comp (p := s) (q := 1 - X)
    (by rw [reflect_eq_linear, natDegree_linear (by norm_num)]; exact one_ne_zero)
  rw [hs, reflect_eq_linear, leadingCoeff_linear (by norm_num)] at h
  by_contra hodd
  rw [(Nat.not_even_iff_odd.mp hodd).neg_one_pow, mul_neg_one, eq_neg_iff_add_eq_zero, ← two_mul] at h
  exact hs0 (leadingCoeff_eq_zero.mp ((mul_eq_zero.mp h).resolve_left two_ne_zero))

/-- the reach of the `n`-node rule: degree `< n`, and one more for odd `n`: `q + q(1 − ·)` is its own reflection, so of
even degree, hence `< n`; the rule is exact on it and, being symmetric, gives both summands the same value, as the
integral does -/
theorem quad_eval_poly_count (n : Nat) (q : Rat[X]) (hq : q.degree < ((n + n % 2 : Nat) : WithBot Nat)) :
    quad n (fun t => q.eval t) = Iint q := by
  rcases Nat.mod_two_eq_zero_or_one n with h | h
  · rw [h] at hq; exact quad_eval_poly n q hq
  · have hsym : (q + q.comp (1 - X)).comp (1 - X) = q + q.comp (1 - X) := by
      rw [add_comp, comp_assoc, sub_comp, one_comp, X_comp, sub_sub_cancel, comp_X, add_comm]
    have hs : (q + q.comp (1 - X)).degree < (n : WithBot Nat) := by
      rcases eq_or_ne (q + q.comp (1 - X)) 0 with h0 | h0
      · rw [h0, degree_zero]; exact WithBot.bot_lt_coe n
      · have hle : (q + q.comp (1 - X)).degree < ((n + 1 : Nat) : WithBot Nat) := by
          rw [h] at hq
          exact (degree_add_le _ _).trans_lt (max_lt hq (by rwa [degree_comp_reflect]))
        rw [degree_eq_natDegree h0, Nat.cast_lt] at hle ⊢
        have := Nat.even_iff.mp (even_natDegree_of_comp_reflect hsym h0)
        omega
    have hR := quad_eval_poly n _ hs
    simp only [eval_add, eval_comp, eval_sub, eval_one, eval_X, quad_add, quad_reflect n (fun t => q.eval t), map_add,
      Iint_comp_reflect] at hR
    linarith

theorem quad_exact_monomial_odd (n : Nat) (hodd : n % 2 = 1) (k : Nat) (hk : k ≤ n) :
    quad n (fun x => x ^ k) = 1 / ((k : Rat) + 1) := by
  rw [← Iint_X_pow, ← quad_eval_poly_count n (X ^ k) (by rw [degree_X_pow, hodd]; exact_mod_cast Nat.lt_succ_of_le hk)]
  simp only [eval_pow, eval_X]

theorem quad_exact_poly_count (n : Nat) (p : List Rat) (hp : p.length ≤ n + n % 2) :
    quad n (peval p) = pint01 p := by
  rw [← Iint_toPoly, ← quad_eval_poly_count n _ ((degree_toPoly_lt p).trans_le (Nat.cast_le.mpr hp))]
  exact quad_congr n (peval_eq_eval p)

/-! ### the code's quadrature of a boundary piece is the exact integral within the exactness domain of the rule -/

theorem verticalN_eq_quad (s : Seg) (a b n : Nat) :
    verticalN s a b n = quad n fun t => (toPoly (coordPoly s.xs) ^ a * toPoly (coordPoly s.ys) ^ b
      * derivative (toPoly (coordPoly s.ys))).eval t := by
  unfold verticalN
  exact quad_congr n fun t => by
    rw [eval_mul, eval_mul, eval_pow, eval_pow, ← evalSeg_x_eq, ← evalSeg_y_eq, ← toPoly_pderiv, ← peval_eq_eval,
      ← derivSeg_derivOK s t]

/-- the integrand `x^a y^b y'` of a piece of degree `d ≥ 1` has degree `≤ (a + b) d + d − 1` -/
theorem verticalN_eq_exact (s : Seg) (hs : 2 ≤ s.length) (a b n : Nat)
    (hdeg : (a + b + 1) * (s.length - 1) ≤ n + n % 2) : verticalN s a b n = exactVertical s a b := by
  rw [verticalN_eq_quad, exactVertical_eq_Iint]
  refine quad_eval_poly_count n _ (degree_le_natDegree.trans_lt (Nat.cast_lt.mpr (lt_of_lt_of_le ?_ hdeg)))
  have hx : _ ≤ s.length - 1 := (natDegree_toPoly_coordPoly s.xs).trans_eq (by rw [Seg.xs, List.length_map])
  have hy : _ ≤ s.length - 1 := (natDegree_toPoly_coordPoly s.ys).trans_eq (by rw [Seg.ys, List.length_map])
  have := natDegree_mul_le_of_le (natDegree_mul_le_of_le (natDegree_pow_le_of_le a hx) (natDegree_pow_le_of_le b hy))
    ((natDegree_derivative_le _).trans (Nat.sub_le_sub_right hy 1))
  rw [add_mul, add_mul, one_mul]
  omega

theorem vertical_eq_exact (s : Seg) (hs : 2 ≤ s.length) (a b : Nat)
    (hdeg : (a + b + 1) * s.degree ≤ (3 + a + b + s.degree) + (3 + a + b + s.degree) % 2) :
    vertical s a b = exactVertical s a b :=
  verticalN_eq_exact s hs a b _ (by simpa [Seg.degree] using hdeg)

/-! the exactness domain of the default node count: all exponents on straight pieces, `a + b ≤ 4` on quadratic ones,
`a + b ≤ 1` on cubic ones -/
theorem vertical_eq_exact_line (s : Seg) (hs : s.length = 2) (a b : Nat) : vertical s a b = exactVertical s a b :=
  vertical_eq_exact s (by omega) a b (by simp only [Seg.degree, hs]; omega)

theorem vertical_eq_exact_quadratic (s : Seg) (hs : s.length = 3) (a b : Nat) (h : a + b ≤ 4) :
    vertical s a b = exactVertical s a b :=
  vertical_eq_exact s (by omega) a b (by simp only [Seg.degree, hs]; omega)

theorem vertical_eq_exact_cubic (s : Seg) (hs : s.length = 4) (a b : Nat) (h : a + b ≤ 1) :
    vertical s a b = exactVertical s a b :=
  vertical_eq_exact s (by omega) a b (by simp only [Seg.degree, hs]; omega)

/-! ### curves and shapes: the code's value is the exact value as soon as it is on every piece -/

theorem shapePolynomial_congr (js : List (List Seg)) (a b : Nat)
    (h : ∀ j ∈ js, ∀ s ∈ j, vertical s (a + 1) b = exactVertical s (a + 1) b) :
    shapePolynomial js a b = shapeExactMoment js a b := by
  unfold shapePolynomial shapeExactMoment
  rw [List.map_congr_left fun j hj => jordanVertical_congr j (a + 1) b (h j hj)]

theorem shapePolynomial_polygon (js : List (List Seg)) (hjs : ∀ j ∈ js, ∀ s ∈ j, s.length = 2) (a b : Nat) :
    shapePolynomial js a b = shapeExactMoment js a b :=
  shapePolynomial_congr js a b fun j hj s hs => vertical_eq_exact_line s (hjs j hj s hs) (a + 1) b

end ShapeVerif
