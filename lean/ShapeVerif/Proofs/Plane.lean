/- Points and straight intersection.  `Intersection.lines` characterised (`linesInter_iff`: it reports exactly the
transversal crossings inside both segments, with the unique solution of the two-line system as parameters); the
characterisation is symmetric in the two segments (`linesInter_swap`).  The parameters are quotients of cross products of
differences: invariances through `linesInter_map`; what `move / scale / rot` do to such a cross product is stated once
each (`Pt.cross_sub_move / _scale / _rot`), for this and for the crossing number (`Geom.contrib_map`).  The entries of the
crossing list of two curves. -/
import ShapeVerif.Model.Intersect
import ShapeVerif.Proofs.Pt
import Mathlib.Tactic.Ring
import Mathlib.Tactic.Linarith
import Mathlib.Tactic.FieldSimp
import Mathlib.Tactic.LinearCombination

namespace ShapeVerif.Geom

theorem Pt.ext' {p q : Pt} (hx : p.x = q.x) (hy : p.y = q.y) : p = q := by
  cases p; cases q; simp_all

theorem Pt.cross_sub_move (a b c e d : Pt) :
    Pt.cross (a.move d - b.move d) (c.move d - e.move d) = Pt.cross (a - b) (c - e) := by
  simp only [Pt.cross, Pt.move, Pt.sub_x, Pt.sub_y]; ring

theorem Pt.cross_sub_scale (a b c e : Pt) (sx sy : Rat) :
    Pt.cross (a.scale sx sy - b.scale sx sy) (c.scale sx sy - e.scale sx sy) = sx * sy * Pt.cross (a - b) (c - e) := by
  simp only [Pt.cross, Pt.scale, Pt.sub_x, Pt.sub_y]; ring

theorem Pt.cross_sub_rot (a b c e : Pt) (cs sn : Rat) :
    Pt.cross (a.rot cs sn - b.rot cs sn) (c.rot cs sn - e.rot cs sn)
      = (cs * cs + sn * sn) * Pt.cross (a - b) (c - e) := by
  simp only [Pt.cross, Pt.rot, Pt.sub_x, Pt.sub_y]; ring

theorem Pt.cross_antisymm (p q : Pt) : Pt.cross p q = -Pt.cross q p := by
  simp only [Pt.cross]; ring

/-- translations compose exactly, and the inverse map restores the point: no drift -/
theorem Pt.move_move (p d e : Pt) : (p.move d).move e = p.move (d + e) := by
  simp only [Pt.move, Pt.add_x, Pt.add_y, Pt.mk.injEq]; constructor <;> ring

theorem Pt.move_move_neg (p d : Pt) : (p.move d).move d.neg = p := by
  cases p; simp [Pt.move, Pt.neg]

theorem Pt.scale_scale_inv (p : Pt) (sx sy : Rat) (hx : sx ≠ 0) (hy : sy ≠ 0) :
    (p.scale sx sy).scale (1 / sx) (1 / sy) = p := by
  cases p; simp [Pt.scale, hx, hy]

theorem Pt.rot_rot_neg (p : Pt) (c s : Rat) (h : c * c + s * s = 1) : (p.rot c s).rot c (-s) = p := by
  cases p with
  | mk x y =>
    simp only [Pt.rot, Pt.mk.injEq]
    constructor
    · linear_combination x * h
    · linear_combination y * h

theorem lerp_zero (a b : Pt) : lerp a b 0 = a := by simp [lerp]
theorem lerp_one (a b : Pt) : lerp a b 1 = b := by simp [lerp]

/-- the parameters computed by `linesInter`, as functions of the end points -/
def linesInterU (a0 a1 b0 b1 : Pt) : Rat := Pt.cross (b0 - a0) (b1 - b0) / Pt.cross (a1 - a0) (b1 - b0)
def linesInterV (a0 a1 b0 b1 : Pt) : Rat := Pt.cross (b0 - a0) (a1 - a0) / Pt.cross (a1 - a0) (b1 - b0)

theorem linesInter_eq (a0 a1 b0 b1 : Pt) :
    linesInter a0 a1 b0 b1 =
      if Pt.cross (a1 - a0) (b1 - b0) ≠ 0 ∧ 0 ≤ linesInterU a0 a1 b0 b1 ∧ linesInterU a0 a1 b0 b1 ≤ 1
          ∧ 0 ≤ linesInterV a0 a1 b0 b1 ∧ linesInterV a0 a1 b0 b1 ≤ 1
      then some (linesInterU a0 a1 b0 b1, linesInterV a0 a1 b0 b1) else none := by
  -- the nested tests one by one on both sides (first, while the `Decidable` instances are as elaborated), then
  -- `0 ≤ u` as `¬ u < 0`
  simp only [linesInter, ite_and, ite_or]
  simp only [linesInterU, linesInterV, ← not_lt, ite_not]

/-- Cramer's rule, both ways: on transversal lines `A(u) = B(v)` has exactly one solution.  The two coordinate equations
and `D u = …`, `D v = …` are linear combinations of each other (`D` is cancelled on the way back) -/
theorem lerp_eq_lerp_iff {a0 a1 b0 b1 : Pt} (hD : Pt.cross (a1 - a0) (b1 - b0) ≠ 0) (u v : Rat) :
    lerp a0 a1 u = lerp b0 b1 v ↔ linesInterU a0 a1 b0 b1 = u ∧ linesInterV a0 a1 b0 b1 = v := by
  unfold linesInterU linesInterV
  rw [div_eq_iff hD, div_eq_iff hD]
  simp only [lerp, Pt.cross, Pt.sub_x, Pt.sub_y, Pt.mk.injEq] at hD ⊢
  generalize a1.x - a0.x = ex, a1.y - a0.y = ey, b1.x - b0.x = fx, b1.y - b0.y = fy at hD ⊢
  constructor
  · rintro ⟨hx, hy⟩
    exact ⟨by linear_combination -fy * hx + fx * hy, by linear_combination -ey * hx + ex * hy⟩
  · rintro ⟨hu, hv⟩
    exact ⟨mul_left_cancel₀ hD (by linear_combination -ex * hu + fx * hv),
      mul_left_cancel₀ hD (by linear_combination -ey * hu + fy * hv)⟩

theorem linesInter_iff (a0 a1 b0 b1 : Pt) (u v : Rat) :
    linesInter a0 a1 b0 b1 = some (u, v) ↔
      Pt.cross (a1 - a0) (b1 - b0) ≠ 0 ∧ lerp a0 a1 u = lerp b0 b1 v ∧ 0 ≤ u ∧ u ≤ 1 ∧ 0 ≤ v ∧ v ≤ 1 := by
  rw [linesInter_eq, Option.ite_none_right_eq_some, Option.some.injEq, Prod.mk.injEq]
  constructor
  · rintro ⟨hc, rfl, rfl⟩
    exact ⟨hc.1, (lerp_eq_lerp_iff hc.1 _ _).mpr ⟨rfl, rfl⟩, hc.2⟩
  · rintro ⟨hD, h, hu⟩
    obtain ⟨rfl, rfl⟩ := (lerp_eq_lerp_iff hD u v).mp h
    exact ⟨⟨hD, hu⟩, rfl, rfl⟩

theorem linesInter_parallel (a0 a1 b0 b1 : Pt) (hD : Pt.cross (a1 - a0) (b1 - b0) = 0) :
    linesInter a0 a1 b0 b1 = none := by
  rw [linesInter_eq, if_neg fun h => h.1 hD]

theorem linesInter_swap (a0 a1 b0 b1 : Pt) :
    linesInter b0 b1 a0 a1 = (linesInter a0 a1 b0 b1).map (fun p => (p.2, p.1)) := by
  ext ⟨u, v⟩
  simp only [Option.map_eq_some_iff, Prod.exists, Prod.mk.injEq, linesInter_iff,
    Pt.cross_antisymm (b1 - b0) (a1 - a0), neg_ne_zero]
  constructor
  · rintro ⟨hD, h, hu0, hu1, hv0, hv1⟩
    exact ⟨v, u, ⟨hD, h.symm, hv0, hv1, hu0, hu1⟩, rfl, rfl⟩
  · rintro ⟨_, _, ⟨hD, h, hv0, hv1, hu0, hu1⟩, rfl, rfl⟩
    exact ⟨hD, h.symm, hu0, hu1, hv0, hv1⟩

/-- the reported parameters are quotients of cross products of differences: a map that multiplies these by a non-zero
factor does not change them (translation, non-zero axis scaling, every similarity `c² + s² ≠ 0`) -/
theorem linesInter_map {f : Pt → Pt} {k : Rat} (hk : k ≠ 0)
    (hc : ∀ a b c e : Pt, Pt.cross (f a - f b) (f c - f e) = k * Pt.cross (a - b) (c - e)) (a0 a1 b0 b1 : Pt) :
    linesInter (f a0) (f a1) (f b0) (f b1) = linesInter a0 a1 b0 b1 := by
  unfold linesInter
  simp only [hc, mul_div_mul_left _ _ hk, ne_eq, mul_eq_zero, hk, false_or]

theorem linesInter_map_move (a0 a1 b0 b1 d : Pt) :
    linesInter (a0.move d) (a1.move d) (b0.move d) (b1.move d) = linesInter a0 a1 b0 b1 :=
  linesInter_map (f := (·.move d)) one_ne_zero (fun a b c e => (Pt.cross_sub_move a b c e d).trans (one_mul _).symm)
    a0 a1 b0 b1

theorem linesInter_map_scale (a0 a1 b0 b1 : Pt) (sx sy : Rat) (hx : sx ≠ 0) (hy : sy ≠ 0) :
    linesInter (a0.scale sx sy) (a1.scale sx sy) (b0.scale sx sy) (b1.scale sx sy)
      = linesInter a0 a1 b0 b1 :=
  linesInter_map (f := (·.scale sx sy)) (mul_ne_zero hx hy) (fun a b c e => Pt.cross_sub_scale a b c e sx sy)
    a0 a1 b0 b1

theorem linesInter_map_rot (a0 a1 b0 b1 : Pt) (c s : Rat) (h : c * c + s * s ≠ 0) :
    linesInter (a0.rot c s) (a1.rot c s) (b0.rot c s) (b1.rot c s) = linesInter a0 a1 b0 b1 :=
  linesInter_map (f := (·.rot c s)) h (fun a b c' e => Pt.cross_sub_rot a b c' e c s) a0 a1 b0 b1

/-- the entry produced for a pair of segments -/
def crossingOf (i k : Nat) (s t : Seg) : Option Crossing :=
  match segAnd s t with
  | .nothing => none
  | .equal => some ⟨i, k, none⟩
  | .at u v => some ⟨i, k, some (u, v)⟩

theorem crossingOf_some {i k : Nat} {s t : Seg} {c : Crossing} (h : crossingOf i k s t = some c) :
    c.a = i ∧ c.b = k ∧ ∀ u v, c.uv = some (u, v) → segAnd s t = .at u v := by
  unfold crossingOf at h
  cases hseg : segAnd s t <;> rw [hseg] at h <;> simp only [Option.some.injEq, reduceCtorEq] at h <;> subst h <;>
    refine ⟨rfl, rfl, fun u v hc => ?_⟩
  · exact absurd hc (by simp)
  · simp only [Option.some.injEq, Prod.mk.injEq] at hc
    rw [hc.1, hc.2]

theorem segAnd_at {a0 a1 b0 b1 : Pt} {u v : Rat} (h : segAnd [a0, a1] [b0, b1] = .at u v) :
    linesInter a0 a1 b0 b1 = some (u, v) := by
  unfold segAnd at h
  split_ifs at h
  simp only at h
  cases hl : linesInter a0 a1 b0 b1 with
  | none => rw [hl] at h; exact absurd h (by simp)
  | some p =>
    rw [hl] at h
    simp only [SegInter.at.injEq] at h
    rw [← h.1, ← h.2]

/-- one entry per pair that `&` reports -/
theorem mem_jordanInterRaw (A B : Jordan) (c : Crossing) :
    c ∈ jordanInterRaw A B ↔
      ∃ s t, A[c.a]? = some s ∧ B[c.b]? = some t ∧ crossingOf c.a c.b s t = some c := by
  unfold jordanInterRaw
  simp only [List.mem_flatMap, List.mem_filterMap, Prod.exists, List.mem_zipIdx_iff_getElem?]
  constructor
  · rintro ⟨s, i, hs, t, k, ht, h⟩
    obtain ⟨rfl, rfl, -⟩ := crossingOf_some h
    exact ⟨s, t, hs, ht, h⟩
  · rintro ⟨s, t, hs, ht, h⟩
    exact ⟨s, c.a, hs, t, c.b, ht, h⟩

end ShapeVerif.Geom
