/- `plot.patch_segment / path_jordan / path_shape`: decoding the encoder's path with matplotlib's arities gives back the
control polygons of an exactly closed curve with pieces of degree 1–3 (C20). -/
import ShapeVerif.Model.Plot
import ShapeVerif.Proofs.Constructors
import Mathlib.Algebra.BigOperators.Group.List.Basic

namespace ShapeVerif.Plot
open ShapeVerif ShapeVerif.Misc

/-! ### reading a path back -/

/-- a piece of degree 1–3 is read from its start; the reader then stands at its end -/
theorem decodeGo_seg (s : Seg) (hd : s.length = 2 ∨ s.length = 3 ∨ s.length = 4)
    (tail : List (Pt × PCode)) (cur : Jordan) (acc : List Jordan) :
    decodeGo (patchSegment s ++ tail) (some (s.headD Pt.zero)) cur acc
      = decodeGo tail (some (s.getLastD Pt.zero)) (cur ++ [s]) acc := by
  -- once the control points are named, the patch of the segment and the step of `decodeGo` that reads it compute
  rcases hd with h | h | h
  · obtain ⟨p, q, rfl⟩ := List.length_eq_two.mp h; rfl
  · obtain ⟨p, q, r, rfl⟩ := List.length_eq_three.mp h; rfl
  · match s, h with
    | [p, q, r, u], _ => rfl

/-- the chain `s, l…` closed by `z` (`Geom.ExactClosed (s :: l)` is the case `z = s`) is read piece by piece -/
theorem decodeGo_chain : ∀ (l : List Seg) (s z : Seg), (∀ ab ∈ (s :: l).zip (l ++ [z]), Geom.Meets ab.1 ab.2) →
    (∀ t ∈ s :: l, t.length = 2 ∨ t.length = 3 ∨ t.length = 4) →
    ∀ (tail : List (Pt × PCode)) (cur : Jordan) (acc : List Jordan),
    decodeGo ((s :: l).flatMap patchSegment ++ tail) (some (s.headD Pt.zero)) cur acc
      = decodeGo tail (some (z.headD Pt.zero)) (cur ++ s :: l) acc :=
  Geom.chain_induction (·.headD Pt.zero) (·.getLastD Pt.zero)
    (P := fun l a b => (∀ t ∈ l, t.length = 2 ∨ t.length = 3 ∨ t.length = 4) → ∀ tail cur acc,
      decodeGo (l.flatMap patchSegment ++ tail) (some a) cur acc = decodeGo tail (some b) (cur ++ l) acc)
    (fun a _ tail cur acc => by rw [List.append_nil]; rfl) fun s l c ih hd tail cur acc => by
      rw [List.flatMap_cons, List.append_assoc, decodeGo_seg s (hd s (by simp)),
        ih (fun t ht => hd t (List.mem_cons_of_mem _ ht)), List.append_assoc]
      rfl

/-- one closed curve is read back, whatever follows and whatever was read before -/
theorem decodeGo_jordan {j : Jordan} (hc : ClosedExact j)
    (hd : ∀ s ∈ j, s.length = 2 ∨ s.length = 3 ∨ s.length = 4)
    (tail : List (Pt × PCode)) (o : Option Pt) (acc : List Jordan) :
    decodeGo (encodeJordan j ++ tail) o [] acc = decodeGo tail none [] (j :: acc) := by
  cases j with
  | nil => exact absurd rfl hc.1
  | cons s0 rest =>
    simp only [encodeJordan, List.cons_append, List.append_assoc]
    rw [decodeGo, decodeGo_chain rest s0 s0 hc.2.2 hd]
    simp [decodeGo]

theorem decodeGo_component : ∀ (js : List Jordan), (∀ j ∈ js, ClosedExact j) →
    (∀ j ∈ js, ∀ s ∈ j, s.length = 2 ∨ s.length = 3 ∨ s.length = 4) →
    ∀ (tail : List (Pt × PCode)) (acc : List Jordan),
    decodeGo (encodeComponent js ++ tail) none [] acc = decodeGo tail none [] (js.reverse ++ acc)
  | [], _, _, _, _ => rfl
  | j :: js, hc, hd, tail, acc => by
    have ih := decodeGo_component js (fun j hj => hc j (List.mem_cons_of_mem _ hj))
      (fun j hj => hd j (List.mem_cons_of_mem _ hj)) tail (j :: acc)
    simp only [encodeComponent, List.flatMap_cons, List.append_assoc] at ih ⊢
    rw [decodeGo_jordan (hc j (by simp)) (hd j (by simp)), ih, List.reverse_cons, List.append_assoc]
    rfl

/-! ### the code and vertex sequences -/

/-- degrees 1, 2, 3 have a code: the patch is the tail of the control points, each tagged with it -/
theorem patchSegment_eq {s : Seg} (hd : s.length = 2 ∨ s.length = 3 ∨ s.length = 4) :
    ∃ c, patchSegment s = s.tail.map fun p => (p, c) := by
  unfold patchSegment Seg.degree
  rcases hd with h | h | h <;> rw [h] <;> exact ⟨_, rfl⟩

theorem verts_flatMap_patch (j : Jordan) (hd : ∀ s ∈ j, s.length = 2 ∨ s.length = 3 ∨ s.length = 4) :
    (j.flatMap patchSegment).map (·.1) = j.flatMap List.tail := by
  rw [List.map_flatMap]
  refine List.flatMap_congr fun s hs => ?_
  obtain ⟨c, hc⟩ := patchSegment_eq (hd s hs)
  rw [hc, List.map_map]
  exact List.map_id' _

/-- as many codes as vertices -/
theorem length_flatMap_patch (j : Jordan) (hd : ∀ s ∈ j, s.length = 2 ∨ s.length = 3 ∨ s.length = 4) :
    (j.flatMap patchSegment).length = (List.map Seg.degree j).sum := by
  rw [← List.length_map (f := (·.1)), verts_flatMap_patch j hd, List.length_flatMap]
  simp only [List.length_tail]
  rfl

theorem codes_patchSegment_inner (s : Seg) : ∀ pc ∈ patchSegment s, pc.2 ≠ .moveto ∧ pc.2 ≠ .closepoly := by
  intro pc hpc
  unfold patchSegment at hpc
  split at hpc
  · rename_i c hc
    simp only [List.mem_map] at hpc
    obtain ⟨p, _, rfl⟩ := hpc
    simp only
    unfold patchCode at hc
    split at hc <;> first | (cases hc; exact ⟨by decide, by decide⟩) | cases hc
  · simp at hpc

end ShapeVerif.Plot
