/- The one bridge between coefficient lists and Mathlib polynomials: `toPoly : List Rat → ℚ[X]` turns the list
operations of the model into ring operations (it is known by its values, `toPoly_eq_of_peval`, and by its coefficients,
`coeff_toPoly`: derivative and degree), `Iint` is `∫₀¹` as a linear functional on `ℚ[X]`: the increment of the
primitive `prim`, so that the fundamental theorem says that two primitives differ by a constant and the affine
substitution rule is the chain rule; and the exact boundary integral of a piece is `Iint (X^a · Y^b · Y')` for
ANY two polynomials `X`, `Y` that evaluate to the coordinates of the piece (`exactVertical_of_eval`): reversal,
splitting, translation, scaling and rotation all enter through that one statement. -/
import ShapeVerif.Proofs.Bezier
import Mathlib.Algebra.Polynomial.Derivative
import Mathlib.Algebra.Polynomial.Roots
import Mathlib.Algebra.CharZero.Infinite
import Mathlib.Algebra.Polynomial.Eval.SMul

open Polynomial

namespace ShapeVerif

/-- the Mathlib polynomial of a coefficient list (low degree first) -/
noncomputable def toPoly : List Rat → Rat[X]
  | [] => 0
  | a :: p => C a + X * toPoly p

theorem toPoly_nil : toPoly [] = 0 := rfl
theorem toPoly_cons (a : Rat) (p : List Rat) : toPoly (a :: p) = C a + X * toPoly p := rfl

theorem peval_eq_eval (p : List Rat) (t : Rat) : peval p t = (toPoly p).eval t := by
  induction p with
  | nil => simp [peval_nil, toPoly_nil]
  | cons a p ih => simp [peval_cons, toPoly_cons, ih]

/-- the entries of the list are the coefficients: a list of length `m` is a polynomial of degree `< m` -/
theorem coeff_toPoly (p : List Rat) (k : Nat) : (toPoly p).coeff k = p.getD k 0 := by
  induction p generalizing k with
  | nil => rw [toPoly_nil, coeff_zero, List.getD_nil]
  | cons a p ih =>
    rw [toPoly_cons, coeff_add]
    cases k with
    | zero => rw [coeff_C_zero, mul_coeff_zero, coeff_X_zero, zero_mul, add_zero, List.getD_cons_zero]
    | succ k => rw [coeff_C_succ, coeff_X_mul, ih, zero_add, List.getD_cons_succ]

theorem degree_toPoly_lt (p : List Rat) : (toPoly p).degree < p.length :=
  (degree_lt_iff_coeff_zero _ _).mpr fun m hm => by
    rw [coeff_toPoly, List.getD_eq_getElem?_getD, List.getElem?_eq_none hm, Option.getD_none]

/-- a list whose evaluation is that of `Q` IS `Q` (ℚ is infinite): `toPoly_pmulLin`, `toPoly_pmul`, `toPoly_ppow` are
their `peval_…` (the derivative has no evaluation lemma and goes by coefficients) -/
theorem toPoly_eq_of_peval {p : List Rat} {Q : Rat[X]} (h : ∀ r, peval p r = Q.eval r) : toPoly p = Q :=
  Polynomial.funext fun r => by rw [← peval_eq_eval, h r]

theorem toPoly_pmulLin (p : List Rat) (r : Rat) : toPoly (pmulLin p r) = toPoly p * (X - C r) :=
  toPoly_eq_of_peval fun t => by rw [peval_pmulLin, eval_mul, eval_sub, eval_X, eval_C, peval_eq_eval]

theorem toPoly_pmul (p q : List Rat) : toPoly (pmul p q) = toPoly p * toPoly q :=
  toPoly_eq_of_peval fun r => by rw [peval_pmul, eval_mul, peval_eq_eval, peval_eq_eval]

theorem toPoly_ppow (p : List Rat) (k : Nat) : toPoly (ppow p k) = toPoly p ^ k :=
  toPoly_eq_of_peval fun r => by rw [peval_ppow, eval_pow, peval_eq_eval]

theorem toPoly_pderiv (p : List Rat) : toPoly (pderiv p) = derivative (toPoly p) := by
  ext k
  rw [coeff_toPoly, coeff_derivative, coeff_toPoly]
  cases p with
  | nil => simp [pderiv]
  | cons a p =>
    simp only [pderiv, List.getD_eq_getElem?_getD, List.getElem?_map, List.getElem?_zipIdx, List.getElem?_cons_succ]
    cases p[k]? <;> simp [mul_comm]

/-- the primitive `Σ_k q_k/(k+1) · X^(k+1)` of `q` -/
noncomputable def prim : Rat[X] →ₗ[Rat] Rat[X] :=
  Polynomial.lsum fun k => ((k : Rat) + 1)⁻¹ • monomial (k + 1)

theorem prim_monomial (k : Nat) (a : Rat) : prim (monomial k a) = monomial (k + 1) (a / ((k : Rat) + 1)) := by
  simp only [prim, lsum_apply, LinearMap.smul_apply, smul_monomial, smul_eq_mul, div_eq_inv_mul]
  exact sum_monomial_index a _ (by rw [mul_zero, monomial_zero_right])

theorem derivative_prim (q : Rat[X]) : derivative (prim q) = q := by
  induction q using Polynomial.induction_on' with
  | add p q hp hq => rw [map_add, derivative_add, hp, hq]
  | monomial n a =>
    rw [prim_monomial, derivative_monomial, Nat.add_sub_cancel, Nat.cast_succ, div_mul_cancel₀ a (by positivity)]

/-- `∫₀¹ q = Σ_k q_k / (k+1)`: the increment of the primitive -/
noncomputable def Iint : Rat[X] →ₗ[Rat] Rat := (leval 1 - leval 0) ∘ₗ prim

theorem Iint_apply (q : Rat[X]) : Iint q = (prim q).eval 1 - (prim q).eval 0 := rfl

theorem Iint_C_mul (a : Rat) (q : Rat[X]) : Iint (C a * q) = a * Iint q := by
  rw [← smul_eq_C_mul, map_smul, smul_eq_mul]

theorem Iint_X_pow (k : Nat) : Iint (X ^ k) = 1 / ((k : Rat) + 1) := by
  rw [← monomial_one_right_eq_X_pow, Iint_apply, prim_monomial, eval_monomial, eval_monomial, one_pow,
    zero_pow k.succ_ne_zero, mul_one, mul_zero, sub_zero]

/-- `∫₀¹ F' = F(1) − F(0)`: two primitives of `F'` differ by a constant -/
theorem Iint_derivative (F : Rat[X]) : Iint (derivative F) = F.eval 1 - F.eval 0 := by
  have h := eq_C_of_derivative_eq_zero (p := prim (derivative F) - F) (by rw [derivative_sub, derivative_prim, sub_self])
  rw [sub_eq_iff_eq_add] at h
  rw [Iint_apply, h, eval_add, eval_add, eval_C, eval_C, add_sub_add_left_eq_sub]

/-- Σ_k c_k / (j + k + 1): the integral of `x^j · p` -/
def pintFrom (j : Nat) (p : List Rat) : Rat := ((p.zipIdx j).map fun (c, k) => c / ((k + 1 : Nat) : Rat)).sum

theorem pintFrom_zero (p : List Rat) : pintFrom 0 p = pint01 p := rfl

/-- both sides are `Σ_k p_k / (k+1)` -/
theorem Iint_toPoly (p : List Rat) : Iint (toPoly p) = pint01 p := by
  have hn : (toPoly p).natDegree < p.length + 1 := Nat.lt_succ_of_le (natDegree_le_of_degree_le (degree_toPoly_lt p).le)
  conv_lhs => rw [(toPoly p).as_sum_range_C_mul_X_pow' hn]
  rw [map_sum, pint01, zipIdx_sum_seq (fun c k => c / ((k + 1 : Nat) : Rat)) (fun _ => zero_div _) p (Nat.le_succ _)]
  exact Finset.sum_congr rfl fun i _ => by rw [Iint_C_mul, Iint_X_pow, coeff_toPoly, seq, Nat.cast_succ, mul_one_div]

theorem derivative_comp_affine (A : Rat[X]) (a b : Rat) :
    derivative (A.comp (C b * X + C a)) = C b * (derivative A).comp (C b * X + C a) := by
  rw [derivative_comp, derivative_add, derivative_C, add_zero, derivative_C_mul, derivative_X, mul_one, mul_comm]

/-- the affine substitution rule: `b · ∫₀¹ q(a + b u) du` is the increment of the primitive over `[a, a + b]` -/
theorem Iint_comp_affine (q : Rat[X]) (a b : Rat) :
    b * Iint (q.comp (C b * X + C a)) = (prim q).eval (a + b) - (prim q).eval a := by
  conv_lhs => rw [← derivative_prim q, ← Iint_C_mul, ← derivative_comp_affine, Iint_derivative]
  simp only [eval_comp, eval_add, eval_mul, eval_C, eval_X, mul_one, mul_zero, zero_add, add_comm b]

theorem reflect_eq_linear : (1 - X : Rat[X]) = C (-1) * X + C 1 := by rw [C_neg, C_1]; ring

/-- `∫₀¹ q(1-x) dx = ∫₀¹ q(x) dx` -/
theorem Iint_comp_reflect (q : Rat[X]) : Iint (q.comp (1 - X)) = Iint q := by
  have h := Iint_comp_affine q 1 (-1)
  rw [← reflect_eq_linear, add_neg_cancel, neg_one_mul, neg_eq_iff_eq_neg, neg_sub] at h
  exact h

theorem evalSeg_x_eq (s : Seg) (t : Rat) : (evalSeg s t).x = (toPoly (coordPoly s.xs)).eval t := by
  rw [← peval_eq_eval, peval_coordPoly]; rfl

theorem evalSeg_y_eq (s : Seg) (t : Rat) : (evalSeg s t).y = (toPoly (coordPoly s.ys)).eval t := by
  rw [← peval_eq_eval, peval_coordPoly]; rfl

theorem natDegree_toPoly_coordPoly (cs : List Rat) : (toPoly (coordPoly cs)).natDegree ≤ cs.length - 1 :=
  natDegree_le_iff_coeff_eq_zero.mpr fun m hm => by
    rw [coeff_toPoly, List.getD_eq_getElem?_getD, List.getElem?_eq_none (by rw [length_coordPoly]; omega),
      Option.getD_none]

theorem exactVertical_eq_Iint (s : Seg) (a b : Nat) :
    exactVertical s a b
      = Iint (toPoly (coordPoly s.xs) ^ a * toPoly (coordPoly s.ys) ^ b
          * derivative (toPoly (coordPoly s.ys))) := by
  show pint01 _ = _
  rw [← Iint_toPoly, toPoly_pmul, toPoly_pmul, toPoly_ppow, toPoly_ppow, toPoly_pderiv]

theorem exactVertical_of_eval (s : Seg) (P Q : Rat[X]) (hx : ∀ t, (evalSeg s t).x = P.eval t)
    (hy : ∀ t, (evalSeg s t).y = Q.eval t) (a b : Nat) :
    exactVertical s a b = Iint (P ^ a * Q ^ b * derivative Q) := by
  have ex : toPoly (coordPoly s.xs) = P := Polynomial.funext fun r => by rw [← evalSeg_x_eq, hx]
  have ey : toPoly (coordPoly s.ys) = Q := Polynomial.funext fun r => by rw [← evalSeg_y_eq, hy]
  rw [exactVertical_eq_Iint, ex, ey]

/-- the empty control polygon has the constant curve `Pt.zero`: every boundary integral over it vanishes, so no statement
about `exactVertical` has to exclude it -/
theorem exactVertical_nil (a b : Nat) : exactVertical [] a b = 0 := by
  rw [exactVertical_of_eval [] 0 0 (fun t => by rw [evalSeg_nil, eval_zero]; rfl)
      (fun t => by rw [evalSeg_nil, eval_zero]; rfl), derivative_zero, mul_zero, map_zero]

/-- the boundary integral of a piece has a primitive `F` as a function of the parameter: over a reparametrised piece
`l(u) = s(α + β u)` it is the increment of `F` over `[α, α + β]` (the piece itself is `α = 0`, `β = 1`) -/
theorem exists_primitive (s : Seg) (a b : Nat) : ∃ F : Rat → Rat, ∀ (l : Seg) (α β : Rat),
    (∀ u, evalSeg l u = evalSeg s (α + β * u)) → exactVertical l a b = F (α + β) - F α := by
  refine ⟨fun x => (prim (toPoly (coordPoly s.xs) ^ a * toPoly (coordPoly s.ys) ^ b
    * derivative (toPoly (coordPoly s.ys)))).eval x, fun l α β h => ?_⟩
  have hL : ∀ u, (C β * X + C α : Rat[X]).eval u = α + β * u := fun u => by
    rw [eval_add, eval_mul, eval_C, eval_C, eval_X, add_comm]
  rw [exactVertical_of_eval l ((toPoly (coordPoly s.xs)).comp (C β * X + C α))
      ((toPoly (coordPoly s.ys)).comp (C β * X + C α))
      (fun t => by rw [h, evalSeg_x_eq, eval_comp, hL]) (fun t => by rw [h, evalSeg_y_eq, eval_comp, hL]),
    derivative_comp_affine, ← Iint_comp_affine, ← Iint_C_mul, mul_comp, mul_comp, pow_comp, pow_comp]
  exact congrArg Iint (mul_left_comm _ _ _)

end ShapeVerif
