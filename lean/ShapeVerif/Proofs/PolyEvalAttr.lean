/- The simp set `polyEval`: the equations by which the model's list-polynomial operations compute on literal coefficient
lists.  Declared in a module of its own because an attribute cannot be used in the module that declares it; the
equations are tagged in Proofs/ListPoly. -/
import Lean.Meta.Tactic.Simp.RegisterCommand

/-- the equations that evaluate `padd`, `pmul`, `ppow`, `pderiv`, `pint01` … on literal lists -/
register_simp_attr polyEval
