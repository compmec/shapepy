/- Helpers of Props/C16: `Primitive.square` as a rectangle, and the quadratic arcs of `Primitive.circle` (the arcs as
rotations of the first, junctions, the sector of an arc and its area under rotation). -/
import ShapeVerif.Model.Primitive
import ShapeVerif.Proofs.Geom
import ShapeVerif.Proofs.Moments
import ShapeVerif.Proofs.AffineCurve
import Mathlib.Tactic.Ring
import Mathlib.Tactic.NormNum
import Mathlib.Tactic.FieldSimp
import Mathlib.Tactic.Positivity
import Mathlib.Tactic.LinearCombination

namespace ShapeVerif.Primitive
open ShapeVerif.Geom

/-- `Primitive.square` is the rectangle from the upper right corner to the lower left one -/
theorem square_eq_rect (s : Rat) (c : Pt) :
    Jordan.fromVertices (Primitive.square s c) = rect (c.x + s / 2) (c.y + s / 2) (c.x + -(s / 2)) (c.y + -(s / 2)) := rfl

/-! ### the quadratic arcs of `Primitive.circle`

`h = tan(θ/2)` for the angle `θ` of one arc, so `cosH h = cos θ`, `sinH h = sin θ` are rational in `h`; `firstArc r h` is
the arc from angle `0` to `θ` as `Primitive.circle` builds it, `arc r h k` its `k`-fold rotation by `θ`. -/

theorem one_add_sq_pos (h : Rat) : 0 < 1 + h ^ 2 := by positivity
theorem one_add_sq_ne (h : Rat) : 1 + h ^ 2 ≠ 0 := ne_of_gt (one_add_sq_pos h)
/-- `cosH`, `sinH` are written with `h * h` -/
theorem one_add_mul_self_ne (h : Rat) : 1 + h * h ≠ 0 := by rw [← sq]; exact one_add_sq_ne h

theorem cosH_sq_add_sinH_sq (h : Rat) : cosH h * cosH h + sinH h * sinH h = 1 := by
  have := one_add_mul_self_ne h
  unfold cosH sinH; field_simp; ring

/-- `ndiv = 4`: the rotation is the quarter turn -/
theorem cosH_one : cosH 1 = 0 := by norm_num [cosH]
theorem sinH_one : sinH 1 = 1 := by norm_num [sinH]
theorem rot_zero_one (p : Pt) : p.rot 0 1 = ⟨-p.y, p.x⟩ := by simp [Pt.rot]

/-- `1/16 − t² (1 − t)² = (1/4 + t (1 − t)) (t − 1/2)²` -/
theorem sq_mul_sq_le {t : Rat} (h0 : 0 ≤ t) (h1 : t ≤ 1) : t ^ 2 * (1 - t) ^ 2 ≤ 1 / 16 := by
  have a : 0 ≤ t * (1 - t) := mul_nonneg h0 (sub_nonneg.mpr h1)
  linear_combination (1 / 4 + t * (1 - t)) * sq_nonneg (t - 1 / 2)

theorem evalSeg_map_rotK (s : Seg) (c sn t : Rat) : ∀ k : Nat,
    evalSeg (s.map (rotK c sn k)) t = rotK c sn k (evalSeg s t)
  | 0 => by simp only [rotK, List.map_id']
  | k + 1 => by
    have e : s.map (rotK c sn (k + 1)) = (s.map (rotK c sn k)).map (fun p => p.rot c sn) := by
      rw [List.map_map]; rfl
    rw [e, evalSeg_map_rot, evalSeg_map_rotK s c sn t k]
    rfl

theorem arc_eval (r h : Rat) (k : Nat) (t : Rat) :
    evalSeg (arc r h k) t = rotK (cosH h) (sinH h) k (evalSeg (firstArc r h) t) :=
  evalSeg_map_rotK (firstArc r h) (cosH h) (sinH h) t k

theorem rot_norm (p : Pt) (c s : Rat) (hcs : c * c + s * s = 1) :
    (p.rot c s).x ^ 2 + (p.rot c s).y ^ 2 = p.x ^ 2 + p.y ^ 2 := by
  simp only [Pt.rot]
  linear_combination (p.x ^ 2 + p.y ^ 2) * hcs

theorem rotK_norm (p : Pt) (c s : Rat) (hcs : c * c + s * s = 1) : ∀ k : Nat,
    (rotK c s k p).x ^ 2 + (rotK c s k p).y ^ 2 = p.x ^ 2 + p.y ^ 2
  | 0 => rfl
  | k + 1 => by simp only [rotK]; rw [rot_norm _ c s hcs, rotK_norm p c s hcs k]

theorem arc_norm (r h : Rat) (k : Nat) (t : Rat) :
    (evalSeg (arc r h k) t).x ^ 2 + (evalSeg (arc r h k) t).y ^ 2
      = (evalSeg (firstArc r h) t).x ^ 2 + (evalSeg (firstArc r h) t).y ^ 2 := by
  rw [arc_eval, rotK_norm _ _ _ (cosH_sq_add_sinH_sq h)]

theorem firstArc_start (r h : Rat) : evalSeg (firstArc r h) 0 = ⟨r, 0⟩ :=
  evalSeg_zero (firstArc r h)
theorem firstArc_end (r h : Rat) : evalSeg (firstArc r h) 1 = (⟨r, 0⟩ : Pt).rot (cosH h) (sinH h) := by
  rw [evalSeg_one (firstArc r h)]
  simp only [firstArc, List.getLastD_cons, List.getLastD_nil, Pt.rot, mul_zero, sub_zero, add_zero, mul_comm r]

theorem rotK_succ' (c s : Rat) (p : Pt) : ∀ k : Nat, rotK c s (k + 1) p = rotK c s k (p.rot c s)
  | 0 => rfl
  | k + 1 => by
    have := rotK_succ' c s p k
    simp only [rotK] at this ⊢
    rw [this]

/-- the sector spanned by the centre and a quadratic arc `a b d` -/
def sectorOf (a b d : Pt) : Jordan := [[⟨0, 0⟩, a], [a, b, d], [d, ⟨0, 0⟩]]

theorem sectorOf_area (a b d : Pt) :
    Jordan.area (sectorOf a b d) = exactVertical [a, b, d] 1 0 + (a.x * a.y - d.x * d.y) / 2 := by
  simp only [sectorOf, Jordan.area, jordanExactVertical, List.map_cons, List.map_nil, List.sum_cons,
    List.sum_nil, exactVertical_line_10]
  ring

theorem sectorOf_area_rot (a b d : Pt) (c s : Rat) :
    Jordan.area (sectorOf (a.rot c s) (b.rot c s) (d.rot c s)) = (c * c + s * s) * Jordan.area (sectorOf a b d) := by
  rw [sectorOf_area, sectorOf_area, exactVertical_quadratic_10, exactVertical_quadratic_10]
  simp only [Pt.rot]; ring

theorem sectorOf_area_rotK (a b d : Pt) (c s : Rat) (hcs : c * c + s * s = 1) : ∀ k : Nat,
    Jordan.area (sectorOf (rotK c s k a) (rotK c s k b) (rotK c s k d)) = Jordan.area (sectorOf a b d)
  | 0 => rfl
  | k + 1 => by
    simp only [rotK]; rw [sectorOf_area_rot, hcs, one_mul, sectorOf_area_rotK a b d c s hcs k]

end ShapeVerif.Primitive
