/- The coordinates of a sum and of a difference of points.  The lemmas sit in `Geom` so that `Pt.sub_x` is unambiguous
under `open Geom`; the primed root copies serve files that do not open `Geom`. -/
import ShapeVerif.Model.Basic

namespace ShapeVerif

@[simp] private theorem Pt.sub_x (p q : Pt) : (p - q).x = p.x - q.x := rfl
@[simp] private theorem Pt.sub_y (p q : Pt) : (p - q).y = p.y - q.y := rfl
theorem Pt.add_x' (c p : Pt) : (c + p).x = c.x + p.x := rfl
theorem Pt.add_y' (c p : Pt) : (c + p).y = c.y + p.y := rfl

end ShapeVerif

namespace ShapeVerif.Geom

@[simp] theorem Pt.sub_x (p q : Pt) : (p - q).x = p.x - q.x := rfl
@[simp] theorem Pt.sub_y (p q : Pt) : (p - q).y = p.y - q.y := rfl
@[simp] theorem Pt.add_x (p q : Pt) : (p + q).x = p.x + q.x := rfl
@[simp] theorem Pt.add_y (p q : Pt) : (p + q).y = p.y + q.y := rfl
theorem Pt.add_mk (c : Pt) (a b : Rat) : c + ⟨a, b⟩ = ⟨c.x + a, c.y + b⟩ := rfl

end ShapeVerif.Geom
