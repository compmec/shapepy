/- Reparametrised pieces.  The reversed piece is the piece at `1 − t` (`evalSeg_reverse`), the two pieces of a split are
the piece at `t0·u` and at `t0 + (1−t0)·u` (`evalSeg_splitAt_left/right`); the affine substitution rule
(`exists_primitive`) then gives, for EVERY degree and ALL exponents: reversal negates `∫ x^a y^b dy`, splitting
preserves it, and every piece of `split(nodes)` is the original piece on its own parameter interval
(`C15.splitMany_retraces`).  Hence inverting a curve negates its area and moments, pieces traversed once in each
direction cancel, and the moments of a shape depend only on the multiset of its boundary pieces. -/
import ShapeVerif.Proofs.PolyBridge
import ShapeVerif.Proofs.Chain
import ShapeVerif.Model.Shape

open Polynomial

namespace ShapeVerif

theorem exactVertical_reverse (s : Seg) (a b : Nat) :
    exactVertical s.reverse a b = - exactVertical s a b := by
  obtain ⟨F, hF⟩ := exists_primitive s a b
  rw [hF s.reverse 1 (-1) (fun u => by rw [evalSeg_reverse, sub_eq_add_neg, neg_one_mul]),
    hF s 0 1 (fun u => by rw [zero_add, one_mul]), add_neg_cancel, zero_add, neg_sub]

theorem exactVertical_add_reverse (s : Seg) (a b : Nat) : exactVertical s a b + exactVertical s.reverse a b = 0 := by
  rw [exactVertical_reverse, add_neg_cancel]

theorem exactVertical_split (s : Seg) (t0 : Rat) (a b : Nat) :
    exactVertical (splitAt s t0).1 a b + exactVertical (splitAt s t0).2 a b = exactVertical s a b := by
  obtain ⟨F, hF⟩ := exists_primitive s a b
  rw [hF _ 0 t0 (fun u => by rw [evalSeg_splitAt_left s t0 u, zero_add]),
    hF _ t0 (1 - t0) (fun u => by rw [evalSeg_splitAt_right s t0 u, mul_comm]),
    hF s 0 1 (fun u => by rw [zero_add, one_mul]), zero_add, zero_add, add_sub_cancel, sub_add_sub_cancel']

theorem area_split (s : Seg) (hs : 2 ≤ s.length) (t0 : Rat) :
    exactVertical (splitAt s t0).1 1 0 + exactVertical (splitAt s t0).2 1 0 = exactVertical s 1 0 :=
  exactVertical_split s t0 1 0

theorem jordanExactVertical_splitMany (r : Seg) (prev : Rat) (nodes : List Rat) (a b : Nat) :
    jordanExactVertical (splitMany r prev nodes) a b = exactVertical r a b := by
  induction nodes generalizing r prev with
  | nil => simp [splitMany, jordanExactVertical]
  | cons n rest ih =>
    have h := ih (splitAt r ((n - prev) / (1 - prev))).2 n
    simp only [jordanExactVertical] at h
    simp only [splitMany, jordanExactVertical, List.map_cons, List.sum_cons, h]
    exact exactVertical_split r _ a b

theorem jordanExactVertical_map_reverse (X : List Seg) (a b : Nat) :
    jordanExactVertical (X.map List.reverse) a b = - jordanExactVertical X a b := by
  unfold jordanExactVertical
  rw [List.sum_neg, List.map_map, List.map_map]
  exact congrArg List.sum (List.map_congr_left fun s _ => exactVertical_reverse s a b)

theorem jordanExactVertical_invert (j : Jordan) (a b : Nat) :
    jordanExactVertical j.invert a b = - jordanExactVertical j a b := by
  rw [← jordanExactVertical_map_reverse]
  unfold Jordan.invert jordanExactVertical
  rw [List.map_reverse, List.sum_reverse]

theorem Jordan.moment_invert (j : Jordan) (a b : Nat) : Jordan.moment j.invert a b = - Jordan.moment j a b := by
  unfold Jordan.moment
  rw [jordanExactVertical_invert j (a + 1) b]
  ring

theorem Jordan.area_invert (j : Jordan) : Jordan.area j.invert = - Jordan.area j :=
  jordanExactVertical_invert j 1 0

theorem jordanExactVertical_perm {L L' : List Seg} (h : L.Perm L') (a b : Nat) :
    jordanExactVertical L a b = jordanExactVertical L' a b := by
  unfold jordanExactVertical
  exact (h.map _).sum_eq

theorem jordanExactVertical_cancel (X : List Seg) (a b : Nat) :
    jordanExactVertical (X ++ X.map List.reverse) a b = 0 := by
  rw [jordanExactVertical_append, jordanExactVertical_map_reverse, add_neg_cancel]

/-- the moments of a list of curves depend only on the multiset of its boundary pieces, and pieces `X` that occur
once in each direction do not count -/
theorem shapeExactMoment_cancel (Rs Ps : List Jordan) (X : List Seg)
    (cert : Rs.flatten.Perm (Ps.flatten ++ X ++ X.map List.reverse))
    (a b : Nat) : shapeExactMoment Rs a b = shapeExactMoment Ps a b := by
  rw [shapeExactMoment_eq, shapeExactMoment_eq, jordanExactVertical_perm cert, List.append_assoc,
    jordanExactVertical_append, jordanExactVertical_cancel X (a + 1) b, add_zero]

theorem shapeExactMoment_invert (js : List Jordan) (a b : Nat) :
    shapeExactMoment (js.map Jordan.invert) a b = - shapeExactMoment js a b := by
  rw [shapeExactMoment_eq_sum, shapeExactMoment_eq_sum, List.sum_neg, List.map_map, List.map_map]
  exact congrArg List.sum (List.map_congr_left fun j _ => Jordan.moment_invert j a b)

theorem Shape.moment_add (A B : Shape) (a b : Nat) :
    A.moment a b + B.moment a b = shapeExactMoment (A.jordans ++ B.jordans) a b :=
  (shapeExactMoment_append _ _ a b).symm

theorem area_invert (j : Jordan) (hj : ∀ s ∈ j, DegLe3 s) : Jordan.area j.invert = - Jordan.area j :=
  Jordan.area_invert j

end ShapeVerif

/-! `segment.split(nodes)` retraces the segment: the statements of C15 -/

namespace ShapeVerif.C15
open ShapeVerif

/-- `piece` is the restriction of `orig` to the parameter interval [lo, hi] -/
def Retraces (orig piece : Seg) (lo hi : Rat) : Prop := ∀ u, evalSeg piece u = evalSeg orig (lo + u * (hi - lo))

/-- the parameter intervals of the pieces of `split(nodes)` that starts at `prev` -/
def intervals (prev : Rat) : List Rat → List (Rat × Rat)
  | [] => [(prev, 1)]
  | n :: rest => (prev, n) :: intervals n rest

/-- one cut: if `r` is `orig` on [prev, 1], cutting `r` at the re-scaled parameter gives `orig` on [prev, n] and on [n, 1] -/
theorem cut_retraces (orig r : Seg) (prev n : Rat) (hp : prev ≠ 1) (h : Retraces orig r prev 1) :
    Retraces orig (splitAt r ((n - prev) / (1 - prev))).1 prev n ∧
    Retraces orig (splitAt r ((n - prev) / (1 - prev))).2 n 1 := by
  have hτ : (n - prev) / (1 - prev) * (1 - prev) = n - prev := div_mul_cancel₀ _ (sub_ne_zero.mpr (Ne.symm hp))
  constructor
  · intro u
    rw [evalSeg_splitAt_left, h, mul_right_comm, hτ, mul_comm]
  · intro u
    rw [evalSeg_splitAt_right, h]
    congr 1
    rw [add_mul, mul_assoc, sub_mul 1, one_mul, hτ]
    ring

theorem splitMany_retraces (orig : Seg) (nodes : List Rat) (r : Seg) (prev : Rat) (hp : prev ≠ 1)
    (hn : ∀ n ∈ nodes, n ≠ 1) (h : Retraces orig r prev 1) :
    List.Forall₂ (fun piece iv => Retraces orig piece iv.1 iv.2) (splitMany r prev nodes) (intervals prev nodes) := by
  induction nodes generalizing r prev with
  | nil => exact List.Forall₂.cons h List.Forall₂.nil
  | cons n rest ih =>
    obtain ⟨hl, hrr⟩ := cut_retraces orig r prev n hp h
    simp only [splitMany, intervals]
    exact List.Forall₂.cons hl (ih _ n (hn n (by simp)) (fun m hm => hn m (by simp [hm])) hrr)

end ShapeVerif.C15
