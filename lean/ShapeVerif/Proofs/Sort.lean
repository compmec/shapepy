/-
The model's stable insertion sort `sortBy lt` (Model/Wf.lean), for any comparison `lt`: the result is a permutation
of the input, and it is sorted for every transitive relation that `lt` decides.  `sortRat` (Model/Jordan.lean) is
the instance `lt a x := a < x`.
-/
import ShapeVerif.Model.Wf
import Mathlib.Data.List.Perm.Basic
import Mathlib.Tactic.Linarith

namespace ShapeVerif

theorem insertBy_perm {α} (lt : α → α → Bool) (x : α) (l : List α) : (insertBy lt x l).Perm (x :: l) := by
  induction l with
  | nil => exact List.Perm.refl _
  | cons a t ih =>
    unfold insertBy
    by_cases h : lt a x = true
    · rw [if_pos h]
      exact (List.Perm.cons a ih).trans (List.Perm.swap x a t)
    · rw [if_neg h]

theorem sortBy_perm {α} (lt : α → α → Bool) (l : List α) : (sortBy lt l).Perm l := by
  induction l with
  | nil => exact List.Perm.refl _
  | cons a t ih =>
    show (insertBy lt a (sortBy lt t)).Perm (a :: t)
    exact (insertBy_perm lt a _).trans (List.Perm.cons a ih)

/-- `insertBy` leaves `a` in front of `x` when `lt a x`, and puts `x` in front of `a` otherwise: if `R` holds in both
cases and is transitive, inserting into an `R`-sorted list keeps it sorted -/
theorem insertBy_pairwise {α} {lt : α → α → Bool} {R : α → α → Prop} (htr : ∀ a b c, R a b → R b c → R a c)
    (h1 : ∀ a x, lt a x = true → R a x) (h2 : ∀ a x, lt a x = false → R x a)
    (x : α) {l : List α} (h : l.Pairwise R) : (insertBy lt x l).Pairwise R := by
  induction l with
  | nil => exact List.pairwise_singleton R x
  | cons a t ih =>
    obtain ⟨ha, ht⟩ := List.pairwise_cons.mp h
    unfold insertBy
    cases hc : lt a x
    · refine List.pairwise_cons.mpr ⟨fun y hy => ?_, h⟩
      rcases List.mem_cons.mp hy with h | hy
      · rw [h]; exact h2 a x hc
      · exact htr _ _ _ (h2 a x hc) (ha y hy)
    · refine List.pairwise_cons.mpr ⟨fun y hy => ?_, ih ht⟩
      rcases List.mem_cons.mp ((insertBy_perm lt x t).mem_iff.mp hy) with h | hy
      · rw [h]; exact h1 a x hc
      · exact ha y hy

theorem sortBy_pairwise {α} {lt : α → α → Bool} {R : α → α → Prop} (htr : ∀ a b c, R a b → R b c → R a c)
    (h1 : ∀ a x, lt a x = true → R a x) (h2 : ∀ a x, lt a x = false → R x a) (l : List α) :
    (sortBy lt l).Pairwise R := by
  induction l with
  | nil => exact List.Pairwise.nil
  | cons a t ih => exact insertBy_pairwise htr h1 h2 a ih

theorem insertSorted_eq_insertBy (x : Rat) (l : List Rat) :
    insertSorted x l = insertBy (fun a x => decide (a < x)) x l := by
  induction l with
  | nil => rfl
  | cons a t ih =>
    unfold insertSorted insertBy
    by_cases h : x ≤ a
    · rw [if_pos h, if_neg (by simpa using h)]
    · rw [if_neg h, if_pos (by simpa using h), ih]

theorem sortRat_eq_sortBy (l : List Rat) : sortRat l = sortBy (fun a x => decide (a < x)) l := by
  induction l with
  | nil => rfl
  | cons a t ih => exact (congrArg (insertSorted a) ih).trans (insertSorted_eq_insertBy a _)

theorem sortRat_pairwise (l : List Rat) : (sortRat l).Pairwise (· ≤ ·) := by
  rw [sortRat_eq_sortBy]
  exact sortBy_pairwise (R := (· ≤ ·)) (fun _ _ _ => le_trans) (fun _ _ h => le_of_lt (of_decide_eq_true h))
    (fun _ _ h => not_lt.mp (of_decide_eq_false h)) l

theorem mem_sortRat (l : List Rat) (y : Rat) : y ∈ sortRat l ↔ y ∈ l := by
  rw [sortRat_eq_sortBy]
  exact (sortBy_perm _ l).mem_iff

end ShapeVerif
