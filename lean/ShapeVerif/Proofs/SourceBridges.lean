/- The kernels of polygon.py (`Point2D.inner / cross / move / scale / __eq__`, `Box.__contains__`, `Box.__and__`) and
`Intersection.lines` of curve.py AS WRITTEN IN THE SOURCE (`Gen/Arith.lean`, regenerated from the Python AST on every
run) are the functions of the model, on all inputs.  Every theorem about the source in Props/C09b, C12b, C13b, C14b
rewrites with one of these equations and cites the theorem about the model; a change of behaviour in the source breaks
the equation, and with it the build of those files.  The proofs are closed under any rewrite of the source that is
propositionally / ring-equal on every input (`grind`). -/
import ShapeVerif.Gen.Arith
import ShapeVerif.Model.Intersect

namespace ShapeVerif.Source

/-- `Point2D.inner` -/
theorem inner_is_model : Gen.inner = Pt.inner := by
  funext p q; simp only [Gen.inner, Pt.inner]; try grind

/-- `Point2D.cross` -/
theorem cross_is_model : Gen.cross = Pt.cross := by
  funext p q; simp only [Gen.cross, Pt.cross]; try grind

/-- `Point2D.move` -/
theorem ptMove_is_model : Gen.ptMove = Pt.move := by
  funext p v; simp only [Gen.ptMove, Pt.move]; try grind

/-- `Point2D.scale` -/
theorem ptScale_is_model : Gen.ptScale = Pt.scale := by
  funext p a b; simp only [Gen.ptScale, Pt.scale]; try grind

/-- `Point2D.__eq__`: the absolute 1e-9 comparison -/
theorem ptEq_is_model : Gen.ptEq = Pt.eqTol := by
  funext p q; simp only [Gen.ptEq, Pt.eqTol, tol9]; grind

/-- `Box.__contains__`: the test with absolute 1e-6 margins -/
theorem boxContains_is_model (b : Box) (p : Pt) : Gen.boxContains b.lo b.hi p = b.containsTol p := by
  simp only [Gen.boxContains, Box.containsTol, tol6]; grind

/-- `Box.__and__(…) is None`: the margin-free disjointness test -/
theorem boxDisjoint_is_model (a b : Box) : Gen.boxDisjoint a.lo a.hi b.lo b.hi = a.disjoint b := by
  simp only [Gen.boxDisjoint, Box.disjoint]; grind

/-- `Intersection.lines` -/
theorem linesInter_is_model : Gen.linesInter = linesInter := by
  funext a0 a1 b0 b1
  simp only [Gen.linesInter, linesInter, cross_is_model]
  grind

end ShapeVerif.Source
