/- `split` of a straight piece and of a polygon: the pieces of `[p, q]` are straight pieces cut one after the other at
points `lerp p q t` of the line; an additive quantity of straight pieces that one cut does not change, wherever on the
line it is made (`hF`), is not changed by `segment.split(nodes)` nor by `JordanCurve.split` (`splitSeg_line_sum`,
`jordanSplit_sum`): every boundary integral, the crossing number of every point, hence membership.  Neither the order of
the nodes nor their lying in the unit interval is used. -/
import ShapeVerif.Proofs.Geom
import ShapeVerif.Proofs.Reparam

namespace ShapeVerif.Geom

theorem splitAt_line (p q : Pt) (t : Rat) : splitAt [p, q] t = ([p, lerp p q t], [lerp p q t, q]) := by
  simp [splitAt, dcLevels, dcStep]

theorem splitMany_line_lengths : ∀ (nodes : List Rat) (prev : Rat) (p q : Pt),
    ∀ s ∈ splitMany [p, q] prev nodes, s.length = 2
  | [], _, p, q => by simp [splitMany]
  | n :: rest, prev, p, q => by
    intro s hs
    simp only [splitMany, splitAt_line, List.mem_cons] at hs
    rcases hs with rfl | hs
    · rfl
    · exact splitMany_line_lengths rest n _ q s hs

theorem cleanSeg_line (s : Seg) (h : s.length = 2) : cleanSeg s = s := by
  unfold cleanSeg; rw [h]; rfl

theorem splitSeg_line_eq (p q : Pt) (nodes : List Rat) :
    splitSeg [p, q] nodes = splitMany [p, q] 0 (dedupNodes (sortRat nodes)) := by
  unfold splitSeg
  conv_rhs => rw [← List.map_id (splitMany [p, q] 0 (dedupNodes (sortRat nodes)))]
  apply List.map_congr_left
  intro s hs
  exact cleanSeg_line s (splitMany_line_lengths _ _ _ _ s hs)

theorem dedupNodes_nil : dedupNodes [] = [] := by simp [dedupNodes]

/-- on a straight piece the short cut of `JordanCurve.split` for "no node" is what `splitSeg` computes anyway -/
theorem splitSeg_line_ite (p q : Pt) (nodes : List Rat) :
    (if nodes.isEmpty then [[p, q]] else splitSeg [p, q] nodes) = splitSeg [p, q] nodes := by
  split_ifs with he
  · rw [List.isEmpty_iff.mp he, splitSeg_line_eq]
    simp [sortRat, dedupNodes_nil, splitMany]
  · rfl

theorem dedupNodes_sublist (l : List Rat) : (dedupNodes l).Sublist l := by
  fun_induction dedupNodes l with
  | case1 a b t _ ih => exact ih.trans (List.Sublist.cons_cons a (List.sublist_cons_self b t))
  | case2 a _ _ _ ih => exact List.Sublist.cons_cons a ih
  | case3 l _ => exact List.Sublist.refl l

theorem dedupNodes_head (a : Rat) : ∀ t, ∃ t', dedupNodes (a :: t) = a :: t'
  | [] => ⟨[], by simp [dedupNodes]⟩
  | b :: t => by
    rw [dedupNodes]
    split_ifs
    · exact dedupNodes_head a t
    · exact ⟨_, rfl⟩

/-- consecutive elements are at least `1e-6` apart -/
def Spaced : List Rat → Prop
  | a :: b :: t => tol6 ≤ absR (b - a) ∧ Spaced (b :: t)
  | _ => True

theorem dedupNodes_spaced (l : List Rat) : Spaced (dedupNodes l) := by
  fun_induction dedupNodes l with
  | case1 _ _ _ _ ih => exact ih
  | case2 a b t h ih =>
    obtain ⟨t', ht'⟩ := dedupNodes_head b t
    rw [ht'] at ih ⊢
    exact ⟨not_lt.mp h, ih⟩
  | case3 l h =>
    match l, h with
    | [], _ => trivial
    | [_], _ => trivial
    | a :: b :: t, h => exact (h a b t rfl).elim

/-- the node list `JordanCurve.split` hands to segment `i` -/
def nodesFor (pairs : List (Nat × Rat)) (i : Nat) : List Rat :=
  ((pairs.filter fun (_, t) => keepNode t).filter fun (k, _) => k == i).map (·.2)

theorem nodesFor_mem (pairs : List (Nat × Rat)) (i : Nat) (t : Rat) (h : t ∈ nodesFor pairs i) :
    (i, t) ∈ pairs ∧ keepNode t = true := by
  simp only [nodesFor, List.mem_map, List.mem_filter] at h
  obtain ⟨⟨k, t'⟩, ⟨⟨hm, hk⟩, hi⟩, rfl⟩ := h
  simp only [beq_iff_eq] at hi
  subst hi
  exact ⟨hm, hk⟩

/-- `JordanCurve.split` from segment index `k` on (`Jordan.split j pairs` is `valueSplit pairs j 0`, by definition) -/
def valueSplit (pairs : List (Nat × Rat)) (j : Jordan) (k : Nat) : Jordan :=
  ((j.zipIdx k).map fun (si : Seg × Nat) =>
    if (nodesFor pairs si.2).isEmpty then [si.1] else splitSeg si.1 (nodesFor pairs si.2)).flatten

theorem valueSplit_cons (pairs : List (Nat × Rat)) (s : Seg) (j : Jordan) (k : Nat) :
    valueSplit pairs (s :: j) k =
      (if (nodesFor pairs k).isEmpty then [s] else splitSeg s (nodesFor pairs k))
        ++ valueSplit pairs j (k + 1) := by
  simp [valueSplit, List.zipIdx_cons]

theorem valueSplit_polygon (pairs : List (Nat × Rat)) : ∀ (j : Jordan) (k : Nat), j.isPolygon = true →
    (valueSplit pairs j k).isPolygon = true
  | [], _, _ => rfl
  | s :: j, k, h => by
    obtain ⟨⟨p, q, rfl⟩, hj⟩ := polygon_cons h
    have ih := valueSplit_polygon pairs j (k + 1) hj
    rw [valueSplit_cons, splitSeg_line_ite, splitSeg_line_eq]
    simp only [Jordan.isPolygon, List.all_append, Bool.and_eq_true, List.all_eq_true, beq_iff_eq] at ih ⊢
    exact ⟨splitMany_line_lengths _ _ _ _, ih⟩

theorem jordanSplit_polygon (j : Jordan) (hj : j.isPolygon = true) (pairs : List (Nat × Rat)) :
    (Jordan.split j pairs).isPolygon = true := valueSplit_polygon pairs j 0 hj

theorem splitMany_line_sum {α : Type} [AddCommMonoid α] (F : Seg → α)
    (hF : ∀ p q t, F [p, lerp p q t] + F [lerp p q t, q] = F [p, q]) :
    ∀ (nodes : List Rat) (prev : Rat) (p q : Pt), ((splitMany [p, q] prev nodes).map F).sum = F [p, q]
  | [], prev, p, q => by simp [splitMany]
  | n :: rest, prev, p, q => by
    simp only [splitMany, splitAt_line, List.map_cons, List.sum_cons]
    rw [splitMany_line_sum F hF rest n _ q]
    exact hF p q _

theorem splitSeg_line_sum {α : Type} [AddCommMonoid α] (F : Seg → α)
    (hF : ∀ p q t, F [p, lerp p q t] + F [lerp p q t, q] = F [p, q]) (p q : Pt) (nodes : List Rat) :
    ((splitSeg [p, q] nodes).map F).sum = F [p, q] := by
  rw [splitSeg_line_eq]; exact splitMany_line_sum F hF _ 0 p q

theorem valueSplit_sum {α : Type} [AddCommMonoid α] (F : Seg → α) (pairs : List (Nat × Rat))
    (hF : ∀ p q t, F [p, lerp p q t] + F [lerp p q t, q] = F [p, q]) :
    ∀ (j : Jordan) (k : Nat), j.isPolygon = true → (List.map F (valueSplit pairs j k)).sum = (List.map F j).sum
  | [], _, _ => rfl
  | s :: j, k, h => by
    obtain ⟨⟨p, q, rfl⟩, hj⟩ := polygon_cons h
    rw [valueSplit_cons, splitSeg_line_ite, List.map_append, List.sum_append, valueSplit_sum F pairs hF j (k + 1) hj,
      splitSeg_line_sum F hF, List.map_cons, List.sum_cons]

theorem jordanSplit_sum {α : Type} [AddCommMonoid α] (F : Seg → α)
    (hF : ∀ p q t, F [p, lerp p q t] + F [lerp p q t, q] = F [p, q])
    (j : Jordan) (hj : j.isPolygon = true) (pairs : List (Nat × Rat)) :
    (List.map F (Jordan.split j pairs)).sum = (List.map F j).sum :=
  valueSplit_sum F pairs hF j 0 hj

/-- for every `t` -/
theorem exactVertical_line_split (p q : Pt) (t : Rat) (a b : Nat) :
    exactVertical [p, lerp p q t] a b + exactVertical [lerp p q t, q] a b = exactVertical [p, q] a b := by
  have h := exactVertical_split [p, q] t a b
  rwa [splitAt_line] at h

theorem splitSeg_integral (p q : Pt) (nodes : List Rat) (a b : Nat) :
    jordanExactVertical (splitSeg [p, q] nodes) a b = exactVertical [p, q] a b :=
  splitSeg_line_sum (fun s => exactVertical s a b) (fun p q t => exactVertical_line_split p q t a b) p q nodes

theorem splitSeg_contrib (p q r : Pt) (nodes : List Rat) :
    ((splitSeg [p, q] nodes).map fun s => contrib (Seg.chord s) r).sum = contrib ⟨p, q⟩ r :=
  splitSeg_line_sum (fun s => contrib (Seg.chord s) r) (fun p q t => contrib_split p q r t) p q nodes

theorem jordanSplit_integral (j : Jordan) (hj : j.isPolygon = true) (pairs : List (Nat × Rat)) (a b : Nat) :
    jordanExactVertical (Jordan.split j pairs) a b = jordanExactVertical j a b :=
  jordanSplit_sum (fun s => exactVertical s a b) (fun p q t => exactVertical_line_split p q t a b) j hj pairs

theorem jordanSplit_area (j : Jordan) (hj : j.isPolygon = true) (pairs : List (Nat × Rat)) :
    Jordan.area (Jordan.split j pairs) = Jordan.area j := jordanSplit_integral j hj pairs 1 0

theorem jordanSplit_moment (j : Jordan) (hj : j.isPolygon = true) (pairs : List (Nat × Rat)) (a b : Nat) :
    Jordan.moment (Jordan.split j pairs) a b = Jordan.moment j a b := by
  unfold Jordan.moment
  rw [jordanSplit_integral j hj pairs (a + 1) b]

theorem jordanSplit_wind (j : Jordan) (hj : j.isPolygon = true) (pairs : List (Nat × Rat)) (r : Pt) :
    wind (Jordan.split j pairs).edges r = wind j.edges r := by
  rw [wind_edges, wind_edges]
  exact jordanSplit_sum (fun s => contrib (Seg.chord s) r) (fun p q t => contrib_split p q r t) j hj pairs

theorem jordanSplit_memW (j : Jordan) (hj : j.isPolygon = true) (pairs : List (Nat × Rat)) (r : Pt) :
    memW (Jordan.split j pairs) r = memW j r := by
  unfold memW Jordan.ccw
  rw [jordanSplit_area j hj pairs, jordanSplit_wind j hj pairs r]

end ShapeVerif.Geom
