/- Polygons: along a piece of constant ordinate `∫ x^a y^b dy` vanishes, along one of constant abscissa `x^a` is a constant
factor (every degree): a horizontal edge contributes nothing, a vertical one `x^a (q.y^(b+1) − p.y^(b+1))/(b+1)`,
hence EVERY moment of an axis-parallel rectangle is the iterated integral `∫ x^a dx · ∫ y^b dy` (`Jordan.moment_rect`).
A polygon is the list of the edges of its closed vertex path (`pathEdges`); a path through a marked vertex is two paths
appended and the path walked backwards is the inverted list, so what Proofs/Reparam says about appended and inverted
lists of pieces applies: reversing the vertex order negates every boundary integral, and cutting a polygon along a
chord adds those of the two parts (the chord is traversed once in each direction), for every exponent pair and every
degenerate case (empty sides, coinciding end points). -/
import ShapeVerif.Proofs.AffineIntegral
import ShapeVerif.Proofs.Reparam
import ShapeVerif.Proofs.Moments
import Mathlib.Tactic.Ring

open Polynomial

namespace ShapeVerif

/-- along a piece of constant ordinate `dy = 0` -/
theorem exactVertical_of_y_const (s : Seg) (c : Rat) (h : ∀ t, (evalSeg s t).y = c) (a b : Nat) :
    exactVertical s a b = 0 := by
  rw [exactVertical_of_eval s _ (C c) (evalSeg_x_eq s) (fun t => by rw [h, eval_C]), derivative_C, mul_zero, map_zero]

/-- along a piece of constant abscissa `x^a` is a constant factor -/
theorem exactVertical_of_x_const (s : Seg) (c : Rat) (h : ∀ t, (evalSeg s t).x = c) (a b : Nat) :
    exactVertical s a b = c ^ a * exactVertical s 0 b := by
  rw [exactVertical_of_eval s (C c) _ (fun t => by rw [h, eval_C]) (evalSeg_y_eq s), exactVertical_eq_Iint s 0 b, pow_zero,
    one_mul, ← C_pow, mul_assoc, Iint_C_mul]

theorem exactVertical_horizontal_edge (p q : Pt) (h : p.y = q.y) (a b : Nat) : exactVertical [p, q] a b = 0 :=
  exactVertical_of_y_const _ p.y (fun t => by rw [evalSeg_two, ← h]; ring) a b

/-- … and `y^b dy` is exact -/
theorem exactVertical_vertical_edge (p q : Pt) (h : p.x = q.x) (a b : Nat) :
    exactVertical [p, q] a b = p.x ^ a * (q.y ^ (b + 1) - p.y ^ (b + 1)) / ((b + 1 : Nat) : Rat) := by
  rw [exactVertical_of_x_const _ p.x (fun t => by rw [evalSeg_two, ← h]; ring), exactVertical_y_pow, mul_div_assoc]
  rfl

theorem pathEdges_append (l1 l2 : List Pt) (x y z : Pt) :
    pathEdges x (l1 ++ y :: l2) z = pathEdges x l1 y ++ pathEdges y l2 z := by
  induction l1 generalizing x with
  | nil => rfl
  | cons a l1 ih => exact congrArg ([x, a] :: ·) (ih a)

theorem pathEdges_reverse (l : List Pt) (x z : Pt) : pathEdges z l.reverse x = Jordan.invert (pathEdges x l z) := by
  induction l generalizing x with
  | nil => rfl
  | cons a l ih =>
    rw [List.reverse_cons, pathEdges_append, ih a]
    simp [pathEdges, Jordan.invert]

/-- reversing the vertex order inverts the polygon, up to the vertex at which it starts -/
theorem fromVertices_reverse_perm (vs : List Pt) :
    (Jordan.fromVertices vs.reverse).Perm (Jordan.fromVertices vs).invert := by
  cases vs with
  | nil => rfl
  | cons v0 t =>
    rw [Geom.fromVertices_cons v0 t, ← pathEdges_reverse, List.reverse_cons]
    rcases t.reverse with _ | ⟨w, r⟩
    · rfl
    · rw [List.cons_append, Geom.fromVertices_cons, pathEdges_append]
      exact List.perm_append_singleton _ _

theorem jordanExactVertical_fromVertices_reverse (vs : List Pt) (a b : Nat) :
    jordanExactVertical (Jordan.fromVertices vs.reverse) a b
      = - jordanExactVertical (Jordan.fromVertices vs) a b := by
  rw [jordanExactVertical_perm (fromVertices_reverse_perm vs), jordanExactVertical_invert]

theorem Jordan.moment_rect (x0 y0 x1 y1 : Rat) (a b : Nat) :
    Jordan.moment (rect x0 y0 x1 y1) a b
      = (x1 ^ (a + 1) - x0 ^ (a + 1)) / ((a + 1 : Nat) : Rat) * ((y1 ^ (b + 1) - y0 ^ (b + 1)) / ((b + 1 : Nat) : Rat)) := by
  rw [Jordan.moment, rect, jordanExactVertical_fromVertices4, exactVertical_horizontal_edge ⟨x0, y0⟩ ⟨x1, y0⟩ rfl,
    exactVertical_vertical_edge ⟨x1, y0⟩ ⟨x1, y1⟩ rfl, exactVertical_horizontal_edge ⟨x1, y1⟩ ⟨x0, y1⟩ rfl,
    exactVertical_vertical_edge ⟨x0, y1⟩ ⟨x0, y0⟩ rfl]
  ring

theorem chord_cut_additive (l1 l2 : List Pt) (p q : Pt) (a b : Nat) :
    jordanExactVertical (Jordan.fromVertices (p :: l1 ++ q :: l2)) a b
      = jordanExactVertical (Jordan.fromVertices (p :: l1 ++ [q])) a b + jordanExactVertical (Jordan.fromVertices (q :: l2 ++ [p])) a b := by
  simp only [List.cons_append, Geom.fromVertices_cons]
  rw [pathEdges_append, pathEdges_append, pathEdges_append, jordanExactVertical_append, jordanExactVertical_append,
    jordanExactVertical_append]
  have h : jordanExactVertical (pathEdges q [] p) a b = - jordanExactVertical (pathEdges p [] q) a b :=
    jordanExactVertical_invert (pathEdges p [] q) a b
  rw [h]
  ring

theorem chord_cut_moment (l1 l2 : List Pt) (p q : Pt) (a b : Nat) :
    Jordan.moment (Jordan.fromVertices (p :: l1 ++ q :: l2)) a b
      = Jordan.moment (Jordan.fromVertices (p :: l1 ++ [q])) a b + Jordan.moment (Jordan.fromVertices (q :: l2 ++ [p])) a b := by
  unfold Jordan.moment
  rw [chord_cut_additive, add_div]

end ShapeVerif
