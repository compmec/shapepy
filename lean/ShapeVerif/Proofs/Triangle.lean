/-
Ground truth for the crossing-number membership: TRIANGLES, in full generality (every position of the
vertices and of the query point, vertical edges and abscissae equal to a vertex abscissa included).

The contribution of an edge `p → q` to the crossing number at `x` depends only on the two
propositions `p.x ≤ x.x`, `q.x ≤ x.x` and on the sign of `triCross p q x` (`Geom.contrib_sign`, `wind_tri`).  The vertical
line through `x` has the three vertices on one side, and no edge is met, or one vertex alone on one side, and only the
two edges at that vertex can be met, one travelled upwards and one downwards (`wind_tri_left`, `wind_tri_right`).  What is
to be proved keeps its form when the names of the vertices are rotated, so the vertex that is alone is `p`
(`lone_vertex_cases`).  The three `triCross` values of a point are its (unnormalised) barycentric coordinates: they add
up to `triCross p q r` (`tri_sum`), and the abscissae of the vertices, counted from that of the point and weighted by
them, add up to 0 (`tri_bary`).  The signs of the three summands of that equation are all the proofs about seven
rationals use: outside, the two edges are met both or none (`lone_left`, `lone_right`); inside, the vertices are not on
one side (`inside_not_same`).
-/
import ShapeVerif.Proofs.Geom
import Mathlib.Tactic.Ring
import Mathlib.Tactic.Linarith

namespace ShapeVerif
open ShapeVerif.Geom

namespace Tri

theorem ite_cancel {P Q : Prop} [Decidable P] [Decidable Q] (h : P ↔ Q) :
    (if P then (1 : Int) else 0) + (if Q then -1 else 0) = 0 := by
  by_cases hp : P
  · rw [if_pos hp, if_pos (h.mp hp)]; rfl
  · rw [if_neg hp, if_neg (fun k => hp (h.mpr k))]; rfl

theorem triCross_swap (p q x : Pt) : triCross q p x = - triCross p q x := by
  rw [← cross_eq_triCross, ← cross_eq_triCross, cross_rev]

theorem triCross_rot (p q r : Pt) : triCross q r p = triCross p q r := by
  unfold triCross; ring

theorem tri_sum (p q r x : Pt) :
    triCross p q x + triCross q r x + triCross r p x = triCross p q r := by
  unfold triCross; ring

theorem triCross_vertical (p q x : Pt) (hp : p.x = x.x) (hq : q.x = x.x) : triCross p q x = 0 := by
  unfold triCross; rw [hp, hq]; ring

theorem tri_bary (p q r x : Pt) :
    triCross q r x * (p.x - x.x) + triCross r p x * (q.x - x.x) + triCross p q x * (r.x - x.x) = 0 := by
  unfold triCross; ring

/-! `a b c` are the abscissae of the vertices, `t` the abscissa of the point, `h1 h2 h3` the sides of the point
with respect to `p → q`, `q → r`, `r → p`; `he` is `tri_bary`. -/

section core
variable {a b c t h1 h2 h3 : Rat}

/-- a counter-clockwise triangle, the point outside, `a` alone on the left: the edges `a → b` (up) and `c → a` (down) are
met both or none -/
theorem lone_left (hT : 0 < h1 + h2 + h3) (he : h2 * (a - t) + h3 * (b - t) + h1 * (c - t) = 0)
    (hout : h1 < 0 ∨ h2 < 0 ∨ h3 < 0) (hA : a ≤ t) (hB : t < b) (hC : t < c) : 0 < h1 ↔ h3 < 0 := by
  constructor
  · intro p1
    by_contra n3
    -- then `h2` is the negative one, and the summands are `≥ 0`, `≥ 0`, `> 0`
    have n2 : h2 < 0 := (hout.resolve_left (not_lt.mpr p1.le)).resolve_right n3
    have k1 := mul_nonneg_of_nonpos_of_nonpos n2.le (sub_nonpos.mpr hA)
    have k2 := mul_nonneg (not_lt.mp n3) (sub_pos.mpr hB).le
    have k3 := mul_pos p1 (sub_pos.mpr hC)
    linarith
  · intro n3
    by_contra p1
    -- then `h2` is the positive one (`hT`), and the summands are `≤ 0`, `< 0`, `≤ 0`
    have p2 : 0 ≤ h2 := by linarith
    have k1 := mul_nonpos_of_nonneg_of_nonpos p2 (sub_nonpos.mpr hA)
    have k2 := mul_neg_of_neg_of_pos n3 (sub_pos.mpr hB)
    have k3 := mul_nonpos_of_nonpos_of_nonneg (not_lt.mp p1) (sub_pos.mpr hC).le
    linarith

/-- … `a` alone on the right: the edges `a → b` (down) and `c → a` (up) -/
theorem lone_right (hT : 0 < h1 + h2 + h3) (he : h2 * (a - t) + h3 * (b - t) + h1 * (c - t) = 0)
    (hout : h1 < 0 ∨ h2 < 0 ∨ h3 < 0) (hA : t < a) (hB : b ≤ t) (hC : c ≤ t) : 0 < h3 ↔ h1 < 0 := by
  constructor
  · intro p3
    by_contra n1
    have n2 : h2 < 0 := (hout.resolve_left n1).resolve_right (not_lt.mpr p3.le)
    have k1 := mul_neg_of_neg_of_pos n2 (sub_pos.mpr hA)
    have k2 := mul_nonpos_of_nonneg_of_nonpos p3.le (sub_nonpos.mpr hB)
    have k3 := mul_nonpos_of_nonneg_of_nonpos (not_lt.mp n1) (sub_nonpos.mpr hC)
    linarith
  · intro n1
    by_contra p3
    have p2 : 0 < h2 := by linarith
    have k1 := mul_pos p2 (sub_pos.mpr hA)
    have k2 := mul_nonneg_of_nonpos_of_nonpos (not_lt.mp p3) (sub_nonpos.mpr hB)
    have k3 := mul_nonneg_of_nonpos_of_nonpos n1.le (sub_nonpos.mpr hC)
    linarith

/-- the point strictly inside: the vertical line through it has a vertex on either side (`hne`: it is not the line of the
edge `a → b`) -/
theorem inside_not_same (he : h2 * (a - t) + h3 * (b - t) + h1 * (c - t) = 0) (hne : ¬ (a = t ∧ b = t))
    (p1 : 0 < h1) (p2 : 0 < h2) (p3 : 0 < h3) (hab : a ≤ t ↔ b ≤ t) (hbc : b ≤ t ↔ c ≤ t) : False := by
  by_cases hA : a ≤ t
  · -- the summands of `he` are `≤ 0`, so they are 0
    have hB := hab.mp hA
    have hC := hbc.mp hB
    have k1 := mul_nonpos_of_nonneg_of_nonpos p2.le (sub_nonpos.mpr hA)
    have k2 := mul_nonpos_of_nonneg_of_nonpos p3.le (sub_nonpos.mpr hB)
    have k3 := mul_nonpos_of_nonneg_of_nonpos p1.le (sub_nonpos.mpr hC)
    have ea := (mul_eq_zero.mp (by linarith : h2 * (a - t) = 0)).resolve_left p2.ne'
    have eb := (mul_eq_zero.mp (by linarith : h3 * (b - t) = 0)).resolve_left p3.ne'
    exact hne ⟨sub_eq_zero.mp ea, sub_eq_zero.mp eb⟩
  · have hB := fun k => hA (hab.mpr k)
    have hC := fun k => hB (hbc.mpr k)
    have k1 := mul_pos p2 (sub_pos.mpr (not_le.mp hA))
    have k2 := mul_pos p3 (sub_pos.mpr (not_le.mp hB))
    have k3 := mul_pos p1 (sub_pos.mpr (not_le.mp hC))
    linarith

end core

theorem wind_tri (p q r x : Pt) :
    wind (Jordan.fromVertices [p, q, r]).edges x
      = edgeSign p.x q.x x.x (triCross p q x) + edgeSign q.x r.x x.x (triCross q r x)
        + edgeSign r.x p.x x.x (triCross r p x) := by
  rw [wind_fromVertices3, contrib_sign, contrib_sign, contrib_sign, cross_eq_triCross, cross_eq_triCross,
    cross_eq_triCross]

theorem wind_tri_rot (p q r x : Pt) :
    wind (Jordan.fromVertices [p, q, r]).edges x = wind (Jordan.fromVertices [q, r, p]).edges x := by
  rw [wind_fromVertices3, wind_fromVertices3]
  omega

theorem wind_tri_rev (p q r x : Pt) :
    wind (Jordan.fromVertices [p, q, r]).edges x = - wind (Jordan.fromVertices [r, q, p]).edges x := by
  rw [wind_fromVertices3, wind_fromVertices3, contrib_rev q p, contrib_rev r q, contrib_rev p r]
  omega

theorem wind_tri_same (p q r x : Pt) (hpq : p.x ≤ x.x ↔ q.x ≤ x.x) (hqr : q.x ≤ x.x ↔ r.x ≤ x.x) :
    wind (Jordan.fromVertices [p, q, r]).edges x = 0 := by
  rw [wind_tri, edgeSign_same _ hpq, edgeSign_same _ hqr, edgeSign_same _ (hpq.trans hqr).symm]
  rfl

theorem wind_tri_left (p q r x : Pt) (hP : p.x ≤ x.x) (hQ : x.x < q.x) (hR : x.x < r.x) :
    wind (Jordan.fromVertices [p, q, r]).edges x
      = (if 0 < triCross p q x then 1 else 0) + (if triCross r p x < 0 then -1 else 0) := by
  rw [wind_tri, edgeSign_up _ hP (not_le.mpr hQ), edgeSign_same _ (iff_of_false (not_le.mpr hQ) (not_le.mpr hR)),
    edgeSign_down _ (not_le.mpr hR) hP, Int.add_zero]

theorem wind_tri_right (p q r x : Pt) (hP : x.x < p.x) (hQ : q.x ≤ x.x) (hR : r.x ≤ x.x) :
    wind (Jordan.fromVertices [p, q, r]).edges x
      = (if 0 < triCross r p x then 1 else 0) + (if triCross p q x < 0 then -1 else 0) := by
  rw [wind_tri, edgeSign_down _ (not_le.mpr hP) hQ, edgeSign_same _ (iff_of_true hQ hR),
    edgeSign_up _ hR (not_le.mpr hP), Int.add_zero, Int.add_comm]

@[elab_as_elim]
theorem lone_vertex_cases (x : Pt) {C : Pt → Pt → Pt → Prop} (rot : ∀ p q r, C q r p → C p q r)
    (same : ∀ p q r, (p.x ≤ x.x ↔ q.x ≤ x.x) → (q.x ≤ x.x ↔ r.x ≤ x.x) → C p q r)
    (left : ∀ p q r, p.x ≤ x.x → x.x < q.x → x.x < r.x → C p q r)
    (right : ∀ p q r, x.x < p.x → q.x ≤ x.x → r.x ≤ x.x → C p q r) (p q r : Pt) : C p q r := by
  by_cases hP : p.x ≤ x.x <;> by_cases hQ : q.x ≤ x.x <;> by_cases hR : r.x ≤ x.x
  · exact same p q r (iff_of_true hP hQ) (iff_of_true hQ hR)
  · exact rot p q r (rot q r p (right r p q (not_le.mp hR) hP hQ))
  · exact rot p q r (right q r p (not_le.mp hQ) hR hP)
  · exact left p q r hP (not_le.mp hQ) (not_le.mp hR)
  · exact right p q r (not_le.mp hP) hQ hR
  · exact rot p q r (left q r p hQ (not_le.mp hR) (not_le.mp hP))
  · exact rot p q r (rot q r p (left r p q hR (not_le.mp hP) (not_le.mp hQ)))
  · exact same p q r (iff_of_false hP hQ) (iff_of_false hQ hR)

end Tri

open Tri

/-- crossing number 1 at every point strictly on the left of the three sides (the triangle is then counter-clockwise:
`tri_sum`) -/
theorem triangle_wind_inside (p q r x : Pt)
    (h1 : 0 < triCross p q x) (h2 : 0 < triCross q r x) (h3 : 0 < triCross r p x) :
    wind (Jordan.fromVertices [p, q, r]).edges x = 1 := by
  induction p, q, r using lone_vertex_cases x with
  | rot p q r ih => rw [wind_tri_rot]; exact ih h2 h3 h1
  | same p q r hpq hqr =>
    exact (inside_not_same (tri_bary p q r x) (fun k => h1.ne' (triCross_vertical p q x k.1 k.2)) h1 h2 h3 hpq hqr).elim
  | left p q r hP hQ hR => rw [wind_tri_left p q r x hP hQ hR, if_pos h1, if_neg (not_lt.mpr h3.le)]; rfl
  | right p q r hP hQ hR => rw [wind_tri_right p q r x hP hQ hR, if_pos h3, if_neg (not_lt.mpr h1.le)]; rfl

/-- counter-clockwise triangle: crossing number 0 at every point strictly outside some edge line -/
theorem triangle_wind_outside (p q r x : Pt) (hccw : 0 < triCross p q r)
    (hout : triCross p q x < 0 ∨ triCross q r x < 0 ∨ triCross r p x < 0) :
    wind (Jordan.fromVertices [p, q, r]).edges x = 0 := by
  induction p, q, r using lone_vertex_cases x with
  | rot p q r ih => rw [wind_tri_rot]; exact ih (by rwa [triCross_rot]) hout.rotate
  | same p q r hpq hqr => exact wind_tri_same p q r x hpq hqr
  | left p q r hP hQ hR =>
    rw [← tri_sum p q r x] at hccw
    rw [wind_tri_left p q r x hP hQ hR]
    exact ite_cancel (lone_left hccw (tri_bary p q r x) hout hP hQ hR)
  | right p q r hP hQ hR =>
    rw [← tri_sum p q r x] at hccw
    rw [wind_tri_right p q r x hP hQ hR]
    exact ite_cancel (lone_right hccw (tri_bary p q r x) hout hP hQ hR)

/-- crossing number −1 at every point strictly on the right of the three sides (a clockwise triangle) -/
theorem triangle_wind_inside_cw (p q r x : Pt)
    (h1 : triCross p q x < 0) (h2 : triCross q r x < 0) (h3 : triCross r p x < 0) :
    wind (Jordan.fromVertices [p, q, r]).edges x = -1 := by
  rw [wind_tri_rev, triangle_wind_inside r q p x (by linarith [triCross_swap q r x])
    (by linarith [triCross_swap p q x]) (by linarith [triCross_swap r p x])]

end ShapeVerif
