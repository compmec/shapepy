/-
C01 — boolean operators compute the set-theoretic result, point by point.

FULL STATEMENT (informal, over the real code): for all shapes A, B, every nested operator expression e
over them and every point p off the operand boundaries, `p in e(A,B,…)` iff the pointwise meaning holds,
and the operator returns for transversal operands.

What is PROVED here (all quantifiers unbounded):
 1. `derived_ops_denote`, `empty_ops_denote`, `whole_ops_denote` — on the method bodies REGENERATED from
    shape.py (Gen/Dispatch.lean): `-`, `^`, `+`, `*`, unary `-` and every Empty/Whole operator have the
    right truth table given that `|`, `&`, `~` denote ∪, ∩, complement.
 2. `shortcuts_sound` — every short-cut return of `DefinedShape.__or__/__and__` denotes the right set at
    every point where the meaning of its guard holds (so a wrong answer needs a wrong containment test:
    C03), and the fall-through calls the right recombination with the right singleton for "no curve".
 3. `expr_denotes` — by induction on expressions: every nested expression denotes `evalSpec`.
 4. `result_certified`, `expr_result_certified` — the verified checker: if `regionCheck`/`exprCheckFind`
    accepts the implementation's actual result R then R is right at EVERY point off the edges whose
    abscissa is not critical (`C01_partial`: certification per executed result, not for all inputs — of the
    recombination algorithm FollowPath only the control structure is modelled, with oracles for its geometric
    steps: Model/Follow.lean, C01b).
 5. `open_membership_is_winding` — off the boundary the code's decision rule `contains_point(p, False)`
    is the winding-number region the checker talks about.

The `16` in `Term.den Gen.baseMethods 16` is the fuel that bounds the unfolding of method bodies (Model/Dispatch.lean; the value
`Chain.shortcutsSound` uses); the answer `some _` shows that it suffices.
-/
import ShapeVerif.Proofs.Slab
import ShapeVerif.Gen.Dispatch

namespace ShapeVerif.C01
open ShapeVerif

/-- (1) the derived operators of `BaseShape`, as translated from the source -/
theorem derived_ops_denote : ∀ s o : Bool,
    Term.den Gen.baseMethods 16 (.sub .self .other) s o = some (s && !o) ∧
    Term.den Gen.baseMethods 16 (.xor .self .other) s o = some (s != o) ∧
    Term.den Gen.baseMethods 16 (.add .self .other) s o = some (s || o) ∧
    Term.den Gen.baseMethods 16 (.mul .self .other) s o = some (s && o) ∧
    Term.den Gen.baseMethods 16 (.neg .self) s o = some (!s) := by decide +kernel

/-- the set-theoretic meaning of an operator name -/
def spec : String → Bool → Bool → Bool
  | "or", s, o => s || o
  | "and", s, o => s && o
  | "sub", s, o => s && !o
  | "xor", s, o => s != o
  | "invert", s, _ => !s
  | "neg", s, _ => !s
  | "add", s, o => s || o
  | "mul", s, o => s && o
  | _, _, _ => false

/-- (1) every operator of `EmptyShape` (self is nowhere) -/
theorem empty_ops_denote : Gen.emptyOps.length = 8 ∧ ∀ nt ∈ Gen.emptyOps, ∀ o : Bool,
    Term.den Gen.baseMethods 16 nt.2 false o = some (spec nt.1 false o) := by decide +kernel

/-- (1) every operator of `WholeShape` (self is everywhere) -/
theorem whole_ops_denote : Gen.wholeOps.length = 8 ∧ ∀ nt ∈ Gen.wholeOps, ∀ o : Bool,
    Term.den Gen.baseMethods 16 nt.2 true o = some (spec nt.1 true o) := by decide +kernel

/-- (2) the short-cut chains of `DefinedShape.__or__` and `__and__` -/
theorem shortcuts_sound :
    Gen.definedOr.shortcutsSound Gen.baseMethods (fun s o => s || o) = true ∧
    Gen.definedOr.recombine = "or_shapes" ∧ Gen.definedOr.onEmpty = .whole ∧
    Gen.definedAnd.shortcutsSound Gen.baseMethods (fun s o => s && o) = true ∧
    Gen.definedAnd.recombine = "and_shapes" ∧ Gen.definedAnd.onEmpty = .empty := by decide +kernel

/-- the operator node of the source for a boolean operator of the specification -/
def opTerm : BOp → Term
  | .or => .or .self .other
  | .and => .and .self .other
  | .sub => .sub .self .other
  | .xor => .xor .self .other

/-- how the implementation evaluates an expression at one point, node by node, with the translated methods -/
def implSem (env : Nat → Bool) : Expr → Option Bool
  | .leaf i => some (env i)
  | .inv e => (implSem env e).bind fun x => Term.den Gen.baseMethods 16 (.inv .self) x false
  | .bin op l r => (implSem env l).bind fun x => (implSem env r).bind fun y =>
      Term.den Gen.baseMethods 16 (opTerm op) x y

/-- a binary operator node evaluates to the truth function of its operator: `|`, `&` are primitives of `Term.den`,
`-`, `^` go through the translated bodies (`derived_ops_denote`) -/
theorem op_denotes (op : BOp) (x y : Bool) : Term.den Gen.baseMethods 16 (opTerm op) x y = some (op.eval x y) :=
  match op with
  | .or => rfl
  | .and => rfl
  | .sub => (derived_ops_denote x y).1
  | .xor => (derived_ops_denote x y).2.1

/-- the `~` node is a primitive too -/
theorem inv_denotes (x : Bool) : Term.den Gen.baseMethods 16 (.inv .self) x false = some (!x) := rfl

/-- (3) the "programs" quantifier: every nested expression denotes its pointwise meaning -/
theorem expr_denotes (env : Nat → Bool) (e : Expr) : implSem env e = some (e.evalSpec env) := by
  induction e with
  | leaf i => rfl
  | inv e ih =>
    change (implSem env e).bind _ = _
    rw [ih]
    exact inv_denotes _
  | bin op l r ihl ihr =>
    change (implSem env l).bind (fun x => (implSem env r).bind _) = _
    rw [ihl, ihr]
    exact op_denotes op _ _

/-- (4) C01_partial: an accepted result is right at every point off the edges, outside finitely many vertical lines -/
theorem result_certified (op : BOp) (A B R : Shape) (h : regionCheck op A B R = true) (r : Pt)
    (hx : r.x ∉ criticalXs (A.edges ++ B.edges ++ R.edges))
    (hoff : ∀ e ∈ A.edges ++ B.edges ++ R.edges, e.onEdge r = false) :
    R.memW r = op.eval (A.memW r) (B.memW r) :=
  regionCheck_sound op A B R h r hx (OffLines.of_not_onEdge _ r hoff)

theorem expr_result_certified (leaves : List Shape) (e : Expr) (R : Shape)
    (h : exprCheckFind leaves e R = none) (r : Pt)
    (hx : r.x ∉ criticalXs (leaves.flatMap Shape.edges ++ R.edges))
    (hoff : ∀ e' ∈ leaves.flatMap Shape.edges ++ R.edges, e'.onEdge r = false) :
    R.memW r = e.evalSpec (fun i => (leaves.getD i Shape.empty).memW r) :=
  exprCheck_sound leaves e R h r hx (OffLines.of_not_onEdge _ r hoff)

/-- the checker never raises a false alarm: a rejection exhibits a sample point where the result is wrong -/
theorem rejection_has_witness (op : BOp) (A B R : Shape) (h : regionCheck op A B R = false) :
    ∃ s ∈ slabSamples (A.edges ++ B.edges ++ R.edges), R.memW s ≠ op.eval (A.memW s) (B.memW s) := by
  obtain ⟨s, hs, hp⟩ := exists_sample_of_slabCheck_eq_false _ _ h
  refine ⟨s, hs, ?_⟩
  simpa [regionOpPred] using hp

/-- (5) off the boundary, the code's open membership rule is exactly the winding-number region -/
theorem open_membership_is_winding (j : Jordan) (r : Pt) (h : j.onBoundary r = false) :
    memJ j r false = memW j r := by
  unfold memJ memW windHalves simpleTable
  rw [h, if_neg Bool.false_ne_true]
  -- twice the crossing number is 2 (is 0) iff the crossing number is 1 (is 0)
  cases j.ccw <;> simp only [Bool.false_eq_true, if_true, if_false, decide_eq_decide] <;> omega

/-- non-vacuity: two overlapping squares; their intersection is accepted and a wrong answer is rejected -/
def sqA : Shape := .simple (Jordan.fromVertices [⟨0,0⟩, ⟨2,0⟩, ⟨2,2⟩, ⟨0,2⟩])
def sqB : Shape := .simple (Jordan.fromVertices [⟨1,1⟩, ⟨3,1⟩, ⟨3,3⟩, ⟨1,3⟩])
def sqAB : Shape := .simple (Jordan.fromVertices [⟨1,1⟩, ⟨2,1⟩, ⟨2,2⟩, ⟨1,2⟩])
example : regionCheck .and sqA sqB sqAB = true ∧ regionCheck .or sqA sqB sqAB = false := by decide +kernel

end ShapeVerif.C01
