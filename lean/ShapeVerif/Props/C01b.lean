/-
C01b — the recombination loops of the boolean operators always end, and keep their structural invariants.

C01 says in particular: "the operator always returns (never hangs or raises) for operands whose boundaries cross
transversally".  `DefinedShape.__or__/__and__` fall through to `FollowPath.or_shapes/and_shapes`, whose loops are
`while True:` loops (`pursue_path`, shape.py l.177), then `ShapeFromJordans`/`DivideConnecteds` (nested `while`
loops + recursion, l.1210/1216/1231) and `JordanCurve.clean` (`while True`, jordancurve.py l.279).

Model/Follow.lean mirrors the control flow line by line (differential-tested against the real Python source run on
stub objects, 1124 random cases, all equal).  All quantifiers are unbounded and every theorem holds FOR ALL ORACLES
unless a hypothesis is written.

WHAT IS ABSTRACTED (the oracles; nothing is assumed about them except where stated):
 * `jump j s` — the geometric tests `last_point in jordan` (l.188) and `segj.ctrlpoints[0] == last_point`
   (l.195) for the end point of segment `s` of curve `j`;
 * `keep j s` (examples only) — `shapeb.contains_point(mid_point, closed)` of `midpoints_one_shape`;
 * `key`, `compatible` — `abs(float(simple))` and `jordan in subsimple and subjordan in simple`;
 * `unite seg0 seg1` — `seg0.degree == seg1.degree` and `seg0 | seg1` not raising `ValueError`.
Not covered: `split_two_jordans`/`jordana & jordanb` (C13), `indexs_to_jordan` → `JordanCurve.from_segments`,
whose `assert prev_end_point == next_start_point` needs the geometric meaning of the chain (C01 certifies the
executed result instead).
-/
import ShapeVerif.Proofs.Follow

namespace ShapeVerif.C01b
open ShapeVerif ShapeVerif.Follow

/-! ## `FollowPath.pursue_path` -/

/-- FOR EVERY ORACLE `jump`, every list of lengths and every start pair: the fuel `lens.sum + 1` is never
exhausted, and any larger fuel gives the same outcome — the `while True` loop makes at most
(total number of segments + 1) iterations. -/
theorem pursuePath_never_hangs (lens : List Nat) (jump : Jump) (start : Idx) :
    pursuePath lens jump start ≠ .error .outOfFuel ∧
    ∀ k, pursuePathFuel lens jump (lens.sum + 1 + k) start [] = pursuePath lens jump start :=
  ⟨pursuePath_ne_outOfFuel lens jump start, (pursuePath_spec lens jump start).1⟩

/-- If, from an existing segment, `possibles[0]` always designates an existing curve with at least one segment,
and the start curve exists and is not empty, then `pursue_path` RETURNS a matrix `r` (no exception), by the
`in matrix` test, with `len(r) ≤` total number of segments. -/
theorem pursuePath_terminates (lens : List Nat) (jump : Jump) (start : Idx)
    (hjump : JumpOK lens jump) (hstart : CurveOK lens start.1) :
    ∃ r, pursuePath lens jump start = .ok r ∧
      (∀ k, pursuePathFuel lens jump (lens.sum + 1 + k) start [] = .ok r) ∧
      r.length ≤ lens.sum := by
  obtain ⟨r, hr⟩ := pursuePath_ok hjump hstart
  obtain ⟨n, rfl, inv, _⟩ := pursuePath_inv hr
  exact ⟨_, hr, fun k => ((pursuePath_spec lens jump start).1 k).trans hr,
    nodup_valid_length_le lens _ inv.1 inv.2⟩

/-- the oracle as a function into pairs: `none` = the end point is on no other curve, `some (j', s')` = it is the
start of segment `s'` of curve `j'` -/
def liftJump (jump : Nat → Nat → Option (Nat × Nat)) : Jump :=
  fun j s => (jump j s).map fun js => (js.1, some js.2)

/-- with the oracle as a function into pairs: if `jump` only returns valid pairs and the start pair is valid, the loop returns
within the fuel `lens.sum + 1`, independently of any extra fuel -/
theorem pursuePath_terminates_valid (lens : List Nat) (jump : Nat → Nat → Option (Nat × Nat)) (start : Idx)
    (hjump : ∀ j s js', validIdx lens (j, s) → jump j s = some js' → validIdx lens js')
    (hstart : validIdx lens start) :
    ∃ r, pursuePath lens (liftJump jump) start = .ok r ∧
      (∀ k, pursuePathFuel lens (liftJump jump) (lens.sum + 1 + k) start [] = .ok r) ∧
      r.head? = some start ∧ r.length ≤ lens.sum := by
  have hj : JumpOK lens (liftJump jump) := by
    intro j s j' os hv he
    obtain ⟨js', hjs, e⟩ := Option.map_eq_some_iff.1 he
    cases e
    exact validIdx_curveOK (hjump j s js' hv hjs)
  obtain ⟨r, h1, h2, h4⟩ := pursuePath_terminates lens (liftJump jump) start hj (validIdx_curveOK hstart)
  obtain ⟨n, rfl, _⟩ := pursuePath_inv h1
  refine ⟨_, h1, h2, ?_, h4⟩
  obtain ⟨n, hn, hlt⟩ := hstart
  rw [orbit_head?]
  simp [normIdx, hn, Nat.mod_eq_of_lt hlt]

/-- FOR EVERY ORACLE, whenever `pursue_path` returns: the matrix has no repeated pair, is not empty, starts with
the start pair (after `index_segment %= len`), every entry designates an existing segment, and it is not longer
than the total number of segments -/
theorem pursuePath_nodup (lens : List Nat) (jump : Jump) (start : Idx) (r : List Idx)
    (h : pursuePath lens jump start = .ok r) :
    r.Nodup ∧ r.head? = some (normIdx lens start) ∧ r ≠ [] ∧ (∀ p ∈ r, validIdx lens p) ∧
    r.length ≤ lens.sum := by
  obtain ⟨n, rfl, inv, _⟩ := pursuePath_inv h
  exact ⟨inv.1, orbit_head? _ _ n, List.ne_nil_of_length_pos (by simp), inv.2,
    nodup_valid_length_le lens _ inv.1 inv.2⟩

/-- FOR EVERY ORACLE, whenever `pursue_path` returns: entry `k+1` is the pair computed from entry `k` by one turn
of the loop (`pursueStep` = l.183–197 then l.178), and the turn from the LAST entry leads to an entry of the
matrix — the loop is closed -/
theorem pursuePath_chain (lens : List Nat) (jump : Jump) (start : Idx) (r : List Idx)
    (h : pursuePath lens jump start = .ok r) :
    (∀ k (hk : k + 1 < r.length), r[k + 1] = pursueStep lens jump r[k]) ∧
    ∃ l, r.getLast? = some l ∧ pursueStep lens jump l ∈ r := by
  obtain ⟨n, rfl, _, hclose⟩ := pursuePath_inv h
  exact ⟨fun k hk => by simp only [List.getElem_map, List.getElem_range, Function.iterate_succ_apply'],
    _, orbit_getLast? _ _ n, hclose⟩

/-- if one turn of the loop is injective on existing segments (two distinct segments never lead to the same
pair), the turn from the last entry leads back to the START pair: the docstring's
"end point of (an, bn) = start point of (a1, b1)" -/
theorem pursuePath_closes_at_start (lens : List Nat) (jump : Jump) (start : Idx) (r : List Idx)
    (h : pursuePath lens jump start = .ok r)
    (hinj : ∀ a b, validIdx lens a → validIdx lens b →
      pursueStep lens jump a = pursueStep lens jump b → a = b) :
    ∃ l, r.getLast? = some l ∧ pursueStep lens jump l = normIdx lens start := by
  obtain ⟨n, rfl, inv, hclose⟩ := pursuePath_inv h
  exact ⟨_, orbit_getLast? _ _ n, closes_at_head inv hinj hclose⟩

/-! ## `is_rotation`, `filter_rotations`, `follow_path` -/

/-- without any hypothesis, a positive answer is right: equal lengths and `b = a.rotate k` -/
theorem isRotation_sound {α : Type} [DecidableEq α] (a b : List α) (h : isRotation a b = true) :
    a.length = b.length ∧ ∃ k, k < a.length ∧ b = a.rotate k := by
  cases b with
  | nil => rw [isRotation_nil_right] at h; cases h
  | cons b0 t =>
    obtain ⟨h1, h2, h3⟩ := (isRotation_cons a b0 t).1 h
    exact ⟨h1, _, h2, h3⟩

/-- for a duplicate-free non-empty `a`: `is_rotation(a, b)` iff `b` is `a` rotated (Mathlib's `List.rotate`);
the lengths are compared by the code itself -/
theorem isRotation_iff {α : Type} [DecidableEq α] (a b : List α) (hnodup : a.Nodup) (hne : a ≠ []) :
    isRotation a b = true ↔ ∃ k, b = a.rotate k := by
  constructor
  · intro h
    obtain ⟨_, k, _, hk⟩ := isRotation_sound a b h
    exact ⟨k, hk⟩
  · rintro ⟨k, rfl⟩
    exact isRotation_complete hnodup hne k

/-- `is_rotation` is reflexive on non-empty lists … -/
theorem isRotation_refl {α : Type} [DecidableEq α] (a : List α) (hne : a ≠ []) : isRotation a a = true := by
  cases a with
  | nil => exact absurd rfl hne
  | cons x xs =>
    rw [isRotation_cons, List.idxOf_cons_self]
    exact ⟨rfl, Nat.zero_lt_succ _, (List.rotate_zero _).symm⟩

/-- … and `is_rotation([], [])` is `False` (the `for … else` of l.212–217) -/
theorem isRotation_nil {α : Type} [DecidableEq α] : isRotation ([] : List α) [] = false := rfl

/-- if all lines are duplicate-free and non-empty: no two kept lines are rotations of each other (in either
direction) and every input line is a rotation of a kept line -/
theorem filterRotations_spec {α : Type} [DecidableEq α] (matrix : List (List α))
    (hall : ∀ line ∈ matrix, line.Nodup ∧ line ≠ []) :
    (filterRotations matrix).Pairwise (fun x y => ∀ k, y ≠ x.rotate k ∧ x ≠ y.rotate k) ∧
      ∀ line ∈ matrix, ∃ m ∈ filterRotations matrix, ∃ k, m = line.rotate k := by
  obtain ⟨h2, h3, h4⟩ := filterRotations_kept matrix
  refine ⟨?_, ?_⟩
  · have hmem : ∀ x ∈ filterRotations matrix, x.Nodup ∧ x ≠ [] := fun x hx => hall x (h2.subset hx)
    refine (List.Pairwise.and_mem.1 h3).imp ?_
    rintro x y ⟨hx, hy, hxy⟩ k
    have hy' := hmem y hy
    have key : ∀ k', x ≠ y.rotate k' := by
      intro k' he
      rw [he, isRotation_complete hy'.1 hy'.2 k'] at hxy
      cases hxy
    refine ⟨fun he => ?_, key k⟩
    obtain ⟨k', hk'⟩ := (List.IsRotated.symm ⟨k, he.symm⟩ : y ~r x)
    exact key k' hk'.symm
  · intro line hl
    rcases h4 line hl with h | ⟨m, hm, hr⟩
    · exact ⟨line, h, 0, by simp⟩
    · obtain ⟨_, k, _, hk⟩ := isRotation_sound line m hr
      exact ⟨m, hm, k, hk⟩

/-- `follow_path` at the index level.  For every oracle it never hangs.  Under the hypotheses of
`pursuePath_terminates` for every start pair it returns a list `res` of cycles such that: every cycle is the
`pursue_path` of some start pair, duplicate-free, made of existing segments; no two cycles are rotations of each
other; the `pursue_path` of every start pair is a rotation of a returned cycle. -/
theorem followPath_terminates (lens : List Nat) (jump : Jump) (starts : List Idx) :
    followPath lens jump starts ≠ .error .outOfFuel ∧
    ((∀ j s j' os, validIdx lens (j, s) → jump j s = some (j', os) → ∃ n, lens[j']? = some n ∧ 0 < n) →
     (∀ p ∈ starts, ∃ n, lens[p.1]? = some n ∧ 0 < n) →
      ∃ res, followPath lens jump starts = .ok res ∧ res.length ≤ starts.length ∧
        (∀ m ∈ res, (∃ p ∈ starts, pursuePath lens jump p = .ok m) ∧ m.Nodup ∧ m ≠ [] ∧
          ∀ q ∈ m, validIdx lens q) ∧
        res.Pairwise (fun x y => ∀ k, y ≠ x.rotate k ∧ x ≠ y.rotate k) ∧
        ∀ p ∈ starts, ∃ r, pursuePath lens jump p = .ok r ∧ ∃ m ∈ res, ∃ k, m = r.rotate k) := by
  have hspec := followPath_spec lens jump starts
  refine ⟨?_, ?_⟩
  · intro h
    rw [h] at hspec
    obtain ⟨p, _, hp⟩ := List.mem_map.1 hspec
    exact pursuePath_ne_outOfFuel lens jump p hp
  · intro hj hs
    cases hf : followPath lens jump starts with
    | error e =>
      rw [hf] at hspec
      obtain ⟨p, hp, hpe⟩ := List.mem_map.1 hspec
      obtain ⟨r, hr⟩ := pursuePath_ok hj (hs p hp)
      rw [hr] at hpe; cases hpe
    | ok res =>
      rw [hf] at hspec
      obtain ⟨ms, hms, rfl⟩ := hspec
      have hall : ∀ m ∈ ms, (∃ p ∈ starts, pursuePath lens jump p = .ok m) ∧ m.Nodup ∧ m ≠ [] ∧
          ∀ q ∈ m, validIdx lens q := fun m hm => by
        obtain ⟨p, hp, hpm⟩ := List.mem_map.1 (hms ▸ List.mem_map_of_mem (f := Except.ok) hm)
        have := pursuePath_nodup lens jump p m hpm
        exact ⟨⟨p, hp, hpm⟩, this.1, this.2.2.1, this.2.2.2.1⟩
      obtain ⟨f1, _, _⟩ := filterRotations_kept ms
      obtain ⟨f5, f6⟩ := filterRotations_spec ms fun m hm => ⟨(hall m hm).2.1, (hall m hm).2.2.1⟩
      refine ⟨filterRotations ms, rfl, ?_, fun m hm => hall m (f1.subset hm), f5, fun p hp => ?_⟩
      · have := congrArg List.length hms
        rw [List.length_map, List.length_map] at this
        rw [this]; exact f1.length_le
      · obtain ⟨r, hr, hpr⟩ := List.mem_map.1 (hms ▸ List.mem_map_of_mem (f := pursuePath lens jump) hp)
        exact ⟨r, hpr.symm, f6 r hr⟩

/-! ## `DivideConnecteds` -/

/-- `DivideConnecteds` is a total function (the definition `divideConnecteds` is by well-founded recursion on
`len(simples)`, the decrease `len(externals) < len(simples)` being proved in Model/Follow.lean from "the
maximal item is removed"); the fuelled transcription of the three nested loops never runs out of fuel and
computes the same value; the groups form a partition of the input, none is empty, there are at most as many
groups as items, and inside a group every member is compatible with all earlier members. -/
theorem divideConnecteds_terminates_and_partitions {α β : Type} [LE β] [DecidableRel (α := β) (· ≤ ·)]
    (key : α → β) (compatible : α → α → Bool) (simples : List α) :
    (divideConnecteds key compatible simples).flatten.Perm simples ∧
    (∀ g ∈ divideConnecteds key compatible simples, g ≠ []) ∧
    (divideConnecteds key compatible simples).length ≤ simples.length ∧
    (∀ fuel, simples.length + 1 ≤ fuel →
      divideConnectedsFuel key compatible fuel simples = some (divideConnecteds key compatible simples)) ∧
    (simples ≠ [] → (grow key compatible simples [] []).2.length < simples.length) ∧
    (∀ g ∈ divideConnecteds key compatible simples, g.Pairwise (fun a b => compatible b a = true)) := by
  obtain ⟨h1, h2, h3, h4⟩ := divideConnecteds_spec key compatible simples
  exact ⟨h1, h2, h3, fun fuel hf => divideConnectedsFuel_eq key compatible fuel simples hf,
    fun hne => (grow_top key compatible hne).2, h4⟩

/-- the first group starts with the first item of maximal key (`absareas.index(max(absareas))`), for a total
transitive order on the keys -/
theorem divideConnecteds_first_is_max {α β : Type} [LE β] [DecidableRel (α := β) (· ≤ ·)]
    (key : α → β) (compatible : α → α → Bool) (simples : List α) (hne : simples ≠ [])
    (htotal : ∀ a b : β, a ≤ b ∨ b ≤ a) (htrans : ∀ a b c : β, a ≤ b → b ≤ c → a ≤ c) :
    ∃ m t gs, divideConnecteds key compatible simples = (m :: t) :: gs ∧ m ∈ simples ∧
      ∀ x ∈ simples, key x ≤ key m := by
  cases hp : popMax key simples with
  | none => exact absurd ((popMax_eq_none key simples).1 hp) hne
  | some mr =>
    obtain ⟨m, rest⟩ := mr
    obtain ⟨t, gs, h⟩ := divideConnecteds_head key compatible hp
    exact ⟨m, t, gs, h, (popMax_perm key simples m rest hp).symm.subset List.mem_cons_self,
      popMax_max key htotal htrans simples m rest hp⟩

/-! ## `JordanCurve.clean` -/

/-- FOR EVERY ORACLE `unite`: the `while True` loop of `clean` returns with the fuel `n + 1` (and the same value
with any larger fuel) after `k` unions; every union shortens the list by one, so `len(result) + k = n`
and `k ≤ n`; the result is a fixed point of the scan: for NO index `i` can `result[i] | result[(i+1) % len]` be
formed (the scan restarts from `i = 0` after every union and the loop only exits when a complete scan fails).
If no segment can be united with itself, a non-empty input gives a non-empty result and `k ≤ n - 1`. -/
theorem cleanLoop_terminates {σ : Type} (unite : σ → σ → Option σ) (segs : List σ) :
    ∃ r k, cleanLoop unite segs = some (r, k) ∧
      (∀ d, cleanLoopFuel unite (segs.length + 1 + d) segs 0 = some (r, k)) ∧
      r.length + k = segs.length ∧
      (∀ i a b, r[i]? = some a → r[(i + 1) % r.length]? = some b → unite a b = none) ∧
      ((∀ s, unite s s = none) → segs ≠ [] → r ≠ [] ∧ k ≤ segs.length - 1) := by
  obtain ⟨r, k, h1, h3, h4, h5⟩ := cleanLoopFuel_spec unite (segs.length + 1) segs 0 (Nat.le_refl _)
  refine ⟨r, k, h1 0, h1, by omega, ?_, ?_⟩
  · intro i a b ha hb
    have hi : i < r.length := by
      by_contra hc; rw [List.getElem?_eq_none (by omega)] at ha; cases ha
    rw [← uniteAt_eq unite ha hb]; exact h4 i hi
  · intro hself hne
    have hr := h5 hself hne
    have := List.length_pos_of_ne_nil hr
    exact ⟨hr, by omega⟩

/-! ## Non-vacuity: concrete runs -/

/-- two crossing rectangles (a plus sign) after `split_two_jordans`:
curve 0 = `[0,4]×[1,3]` with vertices (0,1),(1,1),(3,1),(4,1),(4,3),(3,3),(1,3),(0,3);
curve 1 = `[1,3]×[0,4]` with vertices (1,0),(3,0),(3,1),(3,3),(3,4),(1,4),(1,3),(1,1); 8 segments each,
4 transversal crossings.  The table was produced by running the real `pursue_path` tests on these curves. -/
def plusJump : Jump := fun j s =>
  match j, s with
  | 0, 0 => some (1, some 7) | 0, 1 => some (1, some 2) | 0, 4 => some (1, some 3) | 0, 5 => some (1, some 6)
  | 1, 1 => some (0, some 2) | 1, 2 => some (0, some 5) | 1, 5 => some (0, some 6) | 1, 6 => some (0, some 1)
  | _, _ => none

/-- `midpoints_shapes` for the union: the segments whose mid point is outside the other rectangle (closed) -/
example : startIndexs [8, 8] (fun j s => match j with | 0 => !(s == 1 || s == 5) | _ => !(s == 2 || s == 6)) =
    [(0, 0), (0, 2), (0, 3), (0, 4), (0, 6), (0, 7), (1, 0), (1, 1), (1, 3), (1, 4), (1, 5), (1, 7)] := by decide

/-- union: one cycle of 12 segments, the outline of the plus sign (equal to the output of the real
`pursue_path` + `filter_rotations` on these curves) -/
example : followPath [8, 8] plusJump
    [(0, 0), (0, 2), (0, 3), (0, 4), (0, 6), (0, 7), (1, 0), (1, 1), (1, 3), (1, 4), (1, 5), (1, 7)] =
    .ok [[(0, 0), (1, 7), (1, 0), (1, 1), (0, 2), (0, 3), (0, 4), (1, 3), (1, 4), (1, 5), (0, 6), (0, 7)]] := by
  decide +kernel

/-- intersection: one cycle of 4 segments, the central square -/
example : followPath [8, 8] plusJump [(0, 1), (0, 5), (1, 2), (1, 6)] =
    .ok [[(0, 1), (1, 2), (0, 5), (1, 6)]] := by decide +kernel

/-- two overlapping squares `[0,2]²` and `[1,3]²` after splitting (6 segments each) -/
def squaresJump : Jump := fun j s =>
  match j, s with
  | 0, 1 => some (1, some 1) | 0, 3 => some (1, some 5) | 1, 0 => some (0, some 2) | 1, 4 => some (0, some 4)
  | _, _ => none

example : followPath [6, 6] squaresJump [(0, 0), (0, 1), (0, 4), (0, 5), (1, 1), (1, 2), (1, 3), (1, 4)] =
    .ok [[(0, 0), (0, 1), (1, 1), (1, 2), (1, 3), (1, 4), (0, 4), (0, 5)]] := by decide +kernel

example : followPath [6, 6] squaresJump [(0, 2), (0, 3), (1, 0), (1, 5)] =
    .ok [[(0, 2), (0, 3), (1, 5), (1, 0)]] := by decide +kernel

/-- the hypotheses of `pursuePath_terminates` hold for the plus sign … -/
example : ∀ j s j' os, validIdx [8, 8] (j, s) → plusJump j s = some (j', os) →
    ∃ n, [8, 8][j']? = some n ∧ 0 < n := by
  intro j s j' os _ h
  unfold plusJump at h
  split at h <;> simp at h <;> obtain ⟨rfl, _⟩ := h <;> exact ⟨8, rfl, by omega⟩

/-- … and its step is injective on the 16 existing segments, so every cycle closes at its start -/
example : ∀ a ∈ Follow.validPairsFrom 0 [8, 8], ∀ b ∈ Follow.validPairsFrom 0 [8, 8],
    pursueStep [8, 8] plusJump a = pursueStep [8, 8] plusJump b → a = b := by decide +kernel

/-- the `%=` of l.178 normalises an out-of-range start index … -/
example : pursuePath [8, 8] plusJump (0, 8) = pursuePath [8, 8] plusJump (0, 0) := by decide +kernel

/-- … an empty curve raises `ZeroDivisionError`, a missing curve `IndexError` (hypothesis `hstart` is needed) -/
example : pursuePath [8, 0] plusJump (1, 0) = .error .zeroDivision ∧
    pursuePath [8, 8] plusJump (2, 0) = .error .indexError := by decide

/-- `some (j', none)`: the end point lies on curve `j'` but no segment of `j'` starts there (the `for` of l.194
ends without `break`): the code continues with the OLD segment index on the NEW curve.  Here the end of (0,0)
lies inside segment (1,0) of a curve that was not split: the walk jumps to (1, 0 % 3), terminates, and returns a
chain whose consecutive entries are not geometrically adjacent (`from_segments` would then fail its `assert`). -/
example : pursuePath [4, 3] (fun j s => match j, s with | 0, 0 => some (1, none) | _, _ => none) (0, 0) =
    .ok [(0, 0), (1, 0), (1, 1), (1, 2)] := by decide

/-- a non-injective oracle (two segment ends sent to the same pair — a triple point): the walk is ρ-shaped, it
terminates, but the step from the last entry leads to the SECOND entry, not to the start -/
def rhoJump : Jump := fun j s =>
  match j, s with
  | 0, 0 => some (1, some 0) | 1, 1 => some (0, some 1) | 0, 1 => some (1, some 0)
  | _, _ => none

theorem rho_example : pursuePath [2, 2] rhoJump (0, 0) = .ok [(0, 0), (1, 0), (1, 1), (0, 1)] ∧
    pursueStep [2, 2] rhoJump (0, 1) = (1, 0) := by decide

/-- `is_rotation` examples: a rotation, a reversal, the empty lists, and a list WITH a repeated entry for which
the answer is `False` although `b = a.rotate 2` (only the first occurrence of `b[0]` is tried) -/
example : isRotation [1, 2, 3] [3, 1, 2] = true ∧ isRotation [1, 2, 3] [3, 2, 1] = false ∧
    isRotation ([] : List Nat) [] = false ∧
    isRotation [1, 2, 1, 3] [1, 3, 1, 2] = false ∧ [1, 3, 1, 2] = [1, 2, 1, 3].rotate 2 := by decide

example : filterRotations [[1, 2, 3], [2, 3, 1], [3, 2, 1], [1, 3, 2]] = [[1, 2, 3], [3, 2, 1]] := by decide

/-- `DivideConnecteds` on five items `(|area|, family)`, compatible = same family: three groups -/
example : divideConnectedsFuel (fun (x : Nat × Nat) => x.1) (fun a b => a.2 == b.2) 6
    [(3, 0), (5, 1), (9, 0), (9, 1), (1, 2)] = some [[(9, 0), (3, 0)], [(9, 1), (5, 1)], [(1, 2)]] := by decide

example : divideConnecteds (fun (x : Nat × Nat) => x.1) (fun a b => a.2 == b.2)
    [(3, 0), (5, 1), (9, 0), (9, 1), (1, 2)] = [[(9, 0), (3, 0)], [(9, 1), (5, 1)], [(1, 2)]] := by
  have := (divideConnecteds_terminates_and_partitions (fun (x : Nat × Nat) => x.1) (fun a b => a.2 == b.2)
    [(3, 0), (5, 1), (9, 0), (9, 1), (1, 2)]).2.2.2.1 6 (by decide)
  rw [show divideConnectedsFuel (fun (x : Nat × Nat) => x.1) (fun a b => a.2 == b.2) 6
    [(3, 0), (5, 1), (9, 0), (9, 1), (1, 2)] = some [[(9, 0), (3, 0)], [(9, 1), (5, 1)], [(1, 2)]] from by decide]
    at this
  exact (Option.some.inj this).symm

/-- `clean` on segments `(from, to)` of a polygon with collinear vertices: `unite` joins `(a,b)` and `(b,c)` when
`b` is one of the collinear vertices 1, 3 -/
example : cleanLoop (fun (a b : Nat × Nat) => if a.2 == b.1 && (a.2 == 1 || a.2 == 3) then some (a.1, b.2) else none)
    [(0, 1), (1, 2), (2, 3), (3, 4), (4, 0)] = some ([(0, 2), (2, 4), (4, 0)], 2) := by decide

/-- the hypothesis "no segment can be united with itself" of `cleanLoop_terminates` is needed: with an oracle
that unites everything, `segments[i] = segment; segments.pop(j)` with `i = j = 0` empties a one-segment list -/
example : cleanLoop (fun (a _ : Nat) => some a) [7, 8, 9] = some ([], 3) := by decide

end ShapeVerif.C01b
