/-
C02 — point membership with the documented boundary rule.

FULL STATEMENT (informal, over the real code): `p in shape` / `shape.contains_point(p, boundary)` is
"inside a counter-clockwise boundary / outside a clockwise one; a point ON the boundary is contained iff
`boundary=True`; a ConnectedShape contains p iff every sub-shape does, a DisjointShape iff some component
does; EmptyShape contains nothing, WholeShape everything".

What is PROVED here (all quantifiers unbounded unless said otherwise):
 1. `boundary_rule_table` — the comparison table REGENERATED from `SimpleShape._contains_point`
    (Gen/Dispatch.lean) equals the model's `simpleTable` and equals `docRule`, the table written down from
    the prose, for both orientations and both flags: generated = model on all five values −2 … 2 that twice
    the winding number can take (a source rewrite that is equal there re-proves); model = `docRule` on the three values
    that can occur for the orientation (ccw: 0, 1, 2; cw: −2, −1, 0) — the prose says nothing about the
    others, and for a clockwise curve with `boundary=True` the code's test `w2 > -2` would answer True
    on the impossible values 1, 2.
 2. `composite_quantifiers` — the regenerated loops are `all` (Connected) and `any` (Disjoint), and the
    model's `Shape.mem` is exactly that; Empty ↦ false, Whole ↦ true.
 3. `boundary_point_rule` — for EVERY polygon and EVERY point on its boundary (exact test), membership is
    the flag.  `open_membership_is_winding` (C01) and `closed_membership_is_winding` — off the boundary
    both flags give the winding-number region.  The closed version needs `wind ∈ {0, ±1}` (sign =
    orientation): that is what the Jordan curve theorem gives for SIMPLE closed polygons; the Jordan
    curve theorem itself is not proved here (hypothesis), the open version needs no hypothesis.
 4. winding algebra for ALL edge lists: additivity over `++`, invariance under permutation of the edges
    (in particular under the choice of the start vertex: `wind_rotate`), reversal negates
    (`wind_reverse_edges`), `Jordan.invert` negates (`wind_invert`; proved for every curve, polygon or
    not — for non-polygons `edges` are the chords).
 5. ground truth anchor: for every axis-parallel rectangle the crossing number is 1 at every strictly
    interior point and 0 at every strictly exterior point; hence `memW`/`memJ` agree with the geometric
    truth there (`rect_mem_interior`, `rect_mem_exterior`).

NOT proved: that `wind` equals the geometric winding number for arbitrary simple polygons (the Jordan
curve theorem); the float tolerance `onBoundaryTol` of the code versus the exact `onBoundary` (the tolerances are C12); curved
segments (the model's `wind` is for polygons).
-/
import ShapeVerif.Proofs.Algebra
import ShapeVerif.Props.C01
import ShapeVerif.Gen.Dispatch

namespace ShapeVerif.C02
open ShapeVerif ShapeVerif.Alg

/-- the documented rule, on twice the winding value `w2` (2 = interior of a ccw curve, ±1 = on the
boundary, 0 = outside a ccw curve / in the region of a cw curve, −2 = inside the hole of a cw curve) -/
def docRule (ccw b : Bool) (w2 : Int) : Bool :=
  if ccw then (if w2 = 2 then true else if w2 = 1 then b else false)
  else (if w2 = 0 then true else if w2 = -1 then b else false)

/-- (1) generated table = model table = documented rule -/
theorem boundary_rule_table : ∀ ccw b : Bool, ∀ w2 ∈ ([-2, -1, 0, 1, 2] : List Int),
    Gen.simpleTable ccw b w2 = simpleTable ccw b w2 ∧
    (w2 ∈ (if ccw then [0, 1, 2] else [-2, -1, 0] : List Int) → simpleTable ccw b w2 = docRule ccw b w2) := by
  decide +kernel

/-- (2) Connected = all, Disjoint = any, Empty = nothing, Whole = everything -/
theorem composite_quantifiers :
    (Gen.connectedQuant = .all ∧ Gen.disjointQuant = .any) ∧
    (∀ (js : List Jordan) (r : Pt) (b : Bool), (Shape.connected js).mem r b = js.all (memJ · r b)) ∧
    (∀ (cs : List (List Jordan)) (r : Pt) (b : Bool),
        (Shape.disjoint cs).mem r b = cs.any (·.all (memJ · r b))) ∧
    (∀ (j : Jordan) (r : Pt) (b : Bool), (Shape.simple j).mem r b = memJ j r b) ∧
    (∀ (r : Pt) (b : Bool), Shape.empty.mem r b = false) ∧
    (∀ (r : Pt) (b : Bool), Shape.whole.mem r b = true) :=
  ⟨by decide, fun _ _ _ => rfl, fun _ _ _ => rfl, fun _ _ _ => rfl, fun _ _ => rfl, fun _ _ => rfl⟩

/-- (3) a boundary point is contained iff the flag says so — every curve, both orientations -/
theorem boundary_point_rule (j : Jordan) (r : Pt) (b : Bool) (h : j.onBoundary r = true) : memJ j r b = b := by
  unfold memJ windHalves simpleTable
  rw [if_pos h]
  cases j.ccw <;> cases b <;> decide

/-- (3) off the boundary the closed rule is the winding-number region, given the winding-number range of
a simple closed curve (Jordan curve theorem: 0 outside, +1 / −1 inside a ccw / cw curve) -/
theorem closed_membership_is_winding (j : Jordan) (r : Pt) (h : j.onBoundary r = false)
    (hw : wind j.edges r = 0 ∨ wind j.edges r = (if j.ccw then 1 else -1)) :
    memJ j r true = memW j r := by
  unfold memJ memW windHalves simpleTable
  rw [h, if_neg Bool.false_ne_true]
  -- the table at each of the two admissible values, for each orientation
  rcases hw with hw | hw <;> rw [hw] <;> cases j.ccw <;> decide

/-- hence off the boundary the flag is irrelevant: both rules give the winding-number region -/
theorem flag_irrelevant_off_boundary (j : Jordan) (r : Pt) (h : j.onBoundary r = false)
    (hw : wind j.edges r = 0 ∨ wind j.edges r = (if j.ccw then 1 else -1)) :
    memJ j r true = memJ j r false :=
  (closed_membership_is_winding j r h hw).trans (C01.open_membership_is_winding j r h).symm

/-- (4) the crossing number is additive over concatenation … -/
theorem wind_append (l1 l2 : List Edge) (r : Pt) : wind (l1 ++ l2) r = wind l1 r + wind l2 r :=
  Geom.wind_append l1 l2 r

/-- … invariant under any reordering of the edges … -/
theorem wind_perm (l1 l2 : List Edge) (h : l1.Perm l2) (r : Pt) : wind l1 r = wind l2 r :=
  Alg.wind_perm h r

/-- … in particular under the choice of the start vertex (rotation of the edge cycle) … -/
theorem wind_rotate (es : List Edge) (k : Nat) (r : Pt) : wind (rotateL es k) r = wind es r := by
  unfold rotateL
  rw [wind_append, Int.add_comm, ← wind_append, List.take_append_drop]

/-- … and negated by reversing every edge (in any order) -/
theorem wind_reverse_edges (es : List Edge) (r : Pt) :
    wind (es.map fun e => (⟨e.q, e.p⟩ : Edge)) r = - wind es r := Alg.wind_map_rev es r

/-- `~simple` (`JordanCurve.invert`) negates the crossing number at every point -/
theorem wind_invert (j : Jordan) (r : Pt) : wind j.invert.edges r = - wind j.edges r := Alg.wind_invert j r

/-- `_h` is unused: the statement holds for every curve -/
theorem wind_invert_polygon (j : Jordan) (_h : j.isPolygon = true) (r : Pt) :
    wind j.invert.edges r = - wind j.edges r := Alg.wind_invert j r

/-! (5) ground truth: the rectangle `[x0,x1] × [y0,y1]` (`Alg.memW_rect`: its region at every point) -/

theorem rect_mem_interior (x0 y0 x1 y1 : Rat) (r : Pt) (hx : x0 < x1) (hy : y0 < y1)
    (h : (x0 < r.x ∧ r.x < x1) ∧ (y0 < r.y ∧ r.y < y1)) :
    memW (Jordan.fromVertices [⟨x0, y0⟩, ⟨x1, y0⟩, ⟨x1, y1⟩, ⟨x0, y1⟩]) r = true :=
  (memW_rect x0 y0 x1 y1 hx hy r).trans (decide_eq_true ⟨⟨le_of_lt h.1.1, h.1.2⟩, h.2.1, lt_asymm h.2.2⟩)

theorem rect_mem_exterior (x0 y0 x1 y1 : Rat) (r : Pt) (hx : x0 < x1) (hy : y0 < y1)
    (h : r.x < x0 ∨ x1 < r.x ∨ r.y < y0 ∨ y1 < r.y) :
    memW (Jordan.fromVertices [⟨x0, y0⟩, ⟨x1, y0⟩, ⟨x1, y1⟩, ⟨x0, y1⟩]) r = false := by
  refine (memW_rect x0 y0 x1 y1 hx hy r).trans (decide_eq_false fun k => ?_)
  rcases h with h | h | h | h
  exacts [not_lt.2 k.1.1 h, lt_asymm k.1.2 h, lt_asymm k.2.1 h, k.2.2 h]

/-! ### non-vacuity -/
def sq : Jordan := Jordan.fromVertices [⟨0, 0⟩, ⟨2, 0⟩, ⟨2, 2⟩, ⟨0, 2⟩]
-- interior, exterior, an edge point and a vertex, with both flags; and the inverted (clockwise) square
example : memJ sq ⟨1, 1⟩ true = true ∧ memJ sq ⟨1, 1⟩ false = true := by decide +kernel
example : memJ sq ⟨3, 1⟩ true = false ∧ memJ sq ⟨3, 1⟩ false = false := by decide +kernel
example : sq.onBoundary ⟨2, 1⟩ = true ∧ memJ sq ⟨2, 1⟩ true = true ∧ memJ sq ⟨2, 1⟩ false = false := by
  decide +kernel
example : sq.onBoundary ⟨0, 0⟩ = true ∧ memJ sq ⟨0, 0⟩ true = true ∧ memJ sq ⟨0, 0⟩ false = false := by
  decide +kernel
example : sq.invert.ccw = false ∧ memJ sq.invert ⟨1, 1⟩ true = false ∧ memJ sq.invert ⟨3, 1⟩ false = true ∧
    memJ sq.invert ⟨2, 1⟩ true = true ∧ memJ sq.invert ⟨2, 1⟩ false = false := by decide +kernel
example : wind sq.invert.edges ⟨1, 1⟩ = -1 ∧ wind sq.edges ⟨1, 1⟩ = 1 := by decide +kernel
-- the hypothesis of `closed_membership_is_winding` is satisfiable
example : sq.onBoundary ⟨1, 1⟩ = false ∧ wind sq.edges ⟨1, 1⟩ = (if sq.ccw then 1 else -1) := by decide +kernel

end ShapeVerif.C02
