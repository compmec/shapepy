/-
C02b — point membership for boundaries with CURVED pieces: the subdivision the code performs, and what it certifies.

`IntegratePlanar.winding_number` (curve.py, after fix 9d45f83) halves a curved piece while the query point is inside the box of
its control points and then uses the chord.  `Model/WindCurved.lean` mirrors that recursion exactly (`subdivChords`,
`windCurved`) and adds the same recursion as a certificate (`offCurveCert`).  PROVED here, for control polygons of EVERY degree:
 * `windCurved_polygon` — on polygons the curved model IS the polygon model (`wind` of C02): one definition of membership.
 * `offCurveCert_sound` / `offBoundaryCert_sound` — if the subdivision stops everywhere because the point is outside the box of the
   piece (never because the depth ran out), then the point is on NO point of the curve: for every piece and every parameter
   t ∈ [0,1], seg(t) ≠ p.  (Each half retraces its part of the curve — `evalSeg_splitAt_left/right` — and a point outside
   the box of the control points is no point of the curve — `off_curve_of_box`; both in Proofs/Bezier.)  So "p is off the
   boundary", the hypothesis under which the boundary flag is irrelevant, is DECIDED by the model for curved shapes, with a proof.
 * `subdivChords_nonempty`, `subdivChords_polygon_piece` — structural facts used by the harness (at least one chord per piece;
   a straight piece contributes exactly its own edge, whatever the depth).
 * `triangle_interior` / `triangle_exterior` / `triangle_interior_cw` — GROUND TRUTH beyond rectangles: for every counter-clockwise
   triangle (any position, vertical edges and points below a vertex included) the crossing number is 1 exactly at the points
   strictly left of all three directed edges and 0 at every point strictly right of one of them; −1 inside a clockwise triangle.
   With additivity of `wind` over edge lists and cancellation of reversed edges (C02 (4)) this pins the crossing number down on
   every triangulated polygon.
NOT proved (classical plane topology, as in C02): that the crossing number of the chord chain equals the winding number of the
curve itself when the point is outside every terminal box (convex-hull property + homotopy invariance).
-/
import ShapeVerif.Proofs.ChordPath
import ShapeVerif.Proofs.Triangle

namespace ShapeVerif.C02
open ShapeVerif

/-- a straight piece contributes its own edge at every depth -/
theorem subdivChords_polygon_piece (c : Pt) (fuel : Nat) (s : Seg) (hs : s.length = 2) :
    subdivChords c fuel s = [s.chord] := by
  cases fuel with
  | zero => rfl
  | succ n => simp [subdivChords, hs]

theorem subdivChords_nonempty (c : Pt) (fuel : Nat) (s : Seg) : subdivChords c fuel s ≠ [] := by
  fun_induction subdivChords c fuel s with
  | case3 _ _ _ _ h _ => exact List.append_ne_nil_of_left_ne_nil h _
  | _ => exact List.cons_ne_nil _ _

/-- on polygons the curved model is the polygon model -/
theorem windCurved_polygon (j : Jordan) (hj : j.isPolygon = true) (r : Pt) : windCurved j r = wind j.edges r := by
  have hlen : ∀ s ∈ j, s.length = 2 := (Jordan.isPolygon_iff j).mp hj
  rw [windCurved, Jordan.edges, List.map_eq_flatMap]
  exact congrArg (wind · r) (List.flatMap_congr fun s hs => subdivChords_polygon_piece r _ s (hlen s hs))

theorem memCurved_polygon (j : Jordan) (hj : j.isPolygon = true) (r : Pt) : memCurved j r = memW j r := by
  unfold memCurved memW; rw [windCurved_polygon j hj r]

/-- the certificate is sound: a certified point is on no point of the curve, for every degree and every depth -/
theorem offCurveCert_sound (c : Pt) (fuel : Nat) (s : Seg) (hs : s ≠ []) (h : offCurveCert c fuel s = true)
    (t : Rat) (ht : 0 ≤ t ∧ t ≤ 1) : evalSeg s t ≠ c := by
  clear hs
  fun_induction offCurveCert c fuel s generalizing t with
  | case1 s => exact off_curve_of_box s c (by simpa using h) t ht
  | case2 => cases h
  | case3 _ s _ _ ih1 ih2 =>
    rw [Bool.and_eq_true] at h
    -- `t` is the parameter `2t` of the left half or `2t − 1` of the right half
    rcases le_total t (1 / 2) with hthalf | hthalf
    · have := ih1 h.1 (2 * t) ⟨by linarith only [ht.1], by linarith only [hthalf]⟩
      rwa [evalSeg_splitAt_left, show (1 / 2 : Rat) * (2 * t) = t by ring] at this
    · have := ih2 h.2 (2 * t - 1) ⟨by linarith only [hthalf], by linarith only [ht.2]⟩
      rwa [evalSeg_splitAt_right, show (1 / 2 : Rat) + (2 * t - 1) * (1 - 1 / 2) = t by ring] at this
  | case4 _ s hb => exact off_curve_of_box s c (Bool.eq_false_iff.mpr hb) t ht

/-- … for a whole boundary: a certified point lies on no piece -/
theorem offBoundaryCert_sound (j : Jordan) (hj : ∀ s ∈ j, s ≠ []) (r : Pt) (h : offBoundaryCert j r = true) :
    ∀ s ∈ j, ∀ t : Rat, 0 ≤ t ∧ t ≤ 1 → evalSeg s t ≠ r := by
  intro s hs t ht
  exact offCurveCert_sound r curvedDepth s (hj s hs) (List.all_eq_true.mp h s hs) t ht

/-! ### triangles: the crossing number is the elementary inside test -/
theorem triangle_interior (p q r x : Pt) (hccw : 0 < triCross p q r)
    (h1 : 0 < triCross p q x) (h2 : 0 < triCross q r x) (h3 : 0 < triCross r p x) :
    wind (Jordan.fromVertices [p, q, r]).edges x = 1 := triangle_wind_inside p q r x h1 h2 h3

theorem triangle_exterior (p q r x : Pt) (hccw : 0 < triCross p q r)
    (hout : triCross p q x < 0 ∨ triCross q r x < 0 ∨ triCross r p x < 0) :
    wind (Jordan.fromVertices [p, q, r]).edges x = 0 := triangle_wind_outside p q r x hccw hout

theorem triangle_interior_cw (p q r x : Pt) (hcw : triCross p q r < 0)
    (h1 : triCross p q x < 0) (h2 : triCross q r x < 0) (h3 : triCross r p x < 0) :
    wind (Jordan.fromVertices [p, q, r]).edges x = -1 := triangle_wind_inside_cw p q r x h1 h2 h3

/-- membership of a counter-clockwise triangle = strictly inside, at every point off the three edge lines -/
theorem triangle_membership (p q r x : Pt) (hccw : 0 < triCross p q r)
    (hoff : triCross p q x ≠ 0 ∧ triCross q r x ≠ 0 ∧ triCross r p x ≠ 0) :
    (wind (Jordan.fromVertices [p, q, r]).edges x = 1) ↔
      (0 < triCross p q x ∧ 0 < triCross q r x ∧ 0 < triCross r p x) := by
  refine ⟨fun hw => ?_, fun ⟨h1, h2, h3⟩ => triangle_wind_inside p q r x h1 h2 h3⟩
  -- off the edge lines a point that is not strictly inside is strictly outside one of them, where the crossing number is 0
  by_contra hn
  have hout : triCross p q x < 0 ∨ triCross q r x < 0 ∨ triCross r p x < 0 := by
    by_contra hall
    push Not at hall
    exact hn ⟨hall.1.lt_of_ne' hoff.1, hall.2.1.lt_of_ne' hoff.2.1, hall.2.2.lt_of_ne' hoff.2.2⟩
  rw [triangle_wind_outside p q r x hccw hout] at hw
  exact absurd hw (by decide)

/-! ### non-vacuity: a quadratic "D" (parabola arc closed by a chord) — inside, outside, and a point in the sagitta band
between the arc and its chord polygon, where the chord approximation of the pinned tree was wrong -/
def dShape : Jordan := [[⟨0, -1⟩, ⟨2, 0⟩, ⟨0, 1⟩], [⟨0, 1⟩, ⟨0, -1⟩]]
example : memCurved dShape ⟨1/2, 0⟩ = true ∧ memCurved dShape ⟨2, 0⟩ = false ∧ memCurved dShape ⟨-1, 0⟩ = false := by
  decide +kernel
-- the apex of the arc is (1, 0): (9/10, 0) is inside although it is outside the triangle (0,-1),(0,1) of the single chord
example : memCurved dShape ⟨9/10, 0⟩ = true ∧ offBoundaryCert [[⟨0, -1⟩, ⟨2, 0⟩, ⟨0, 1⟩]] ⟨9/10, 0⟩ = true := by decide +kernel
example : memCurved dShape ⟨11/10, 0⟩ = false ∧ offBoundaryCert [[⟨0, -1⟩, ⟨2, 0⟩, ⟨0, 1⟩]] ⟨11/10, 0⟩ = true := by decide +kernel
-- a point ON the arc is never certified
example : offBoundaryCert [[⟨0, -1⟩, ⟨2, 0⟩, ⟨0, 1⟩]] ⟨1, 0⟩ = false := by decide +kernel

end ShapeVerif.C02
