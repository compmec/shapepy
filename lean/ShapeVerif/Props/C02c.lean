/-
C02c — the chords summed by the curved winding number (continuation of C02b): for every query point and every depth they form a path
through points of the curve in parameter order, closed for a closed boundary.  So `windCurved` is always the crossing number of a closed
polygon INSCRIBED in the boundary; C02b's certificate says when the query point is provably off the boundary itself.
-/
import ShapeVerif.Proofs.ChordPath

namespace ShapeVerif.C02
open ShapeVerif

/-- the chords of one piece form a path from its first to its last control point, through points OF THE CURVE taken in parameter order -/
theorem chords_follow_curve (c : Pt) (fuel : Nat) (s : Seg) (hs : s ≠ []) :
    IsPath (subdivChords c fuel s) (s.headD Pt.zero) (s.getLastD Pt.zero) ∧
    ∀ e ∈ subdivChords c fuel s, ∃ t0 t1 : Rat, 0 ≤ t0 ∧ t0 ≤ t1 ∧ t1 ≤ 1 ∧ e.p = evalSeg s t0 ∧ e.q = evalSeg s t1 :=
  ⟨subdivChords_path c fuel s, subdivChords_on_curve c fuel s⟩

/-- for a closed boundary the chords of all pieces form a CLOSED path: `windCurved` is the crossing number of a closed polygon inscribed in the
boundary (whatever the query point and the depth) -/
theorem chords_closed_path (c : Pt) (fuel : Nat) (s0 : Seg) (rest : Jordan) (hj : ∀ s ∈ s0 :: rest, s ≠ [])
    (hchain : ∀ p ∈ (s0 :: rest).zip ((s0 :: rest).tail ++ (s0 :: rest).take 1), p.1.getLastD Pt.zero = p.2.headD Pt.zero) :
    IsPath ((s0 :: rest).flatMap (subdivChords c fuel)) (s0.headD Pt.zero) (s0.headD Pt.zero) :=
  chain_chords_path c fuel rest s0 s0 hchain

end ShapeVerif.C02
