/-
C03 — `B in A` (shape containment) means "the region of B is a subset of the region of A".

FULL STATEMENT (informal, over the real code): for all shapes A, B: `B in A` is True iff every point of B
is a point of A; it is reflexive and transitive, Empty is in everything, everything is in Whole, Whole is
in nothing else; `B in A` implies `A | B == A` and `A & B == B`; containment in a ConnectedShape is
containment in every sub-shape, a DisjointShape is contained iff all its components are.

What is PROVED here (all quantifiers unbounded):
 1. `subset_certified` / `subset_rejection_has_witness` — the verified checker `regionSubset B A` used by
    the harness to judge the code's answer: if it accepts, then EVERY point `r` that lies on no edge of A, B
    and whose abscissa is not one of the finitely many critical abscissae satisfies `r ∈ B → r ∈ A`; if it
    rejects, it exhibits a sample point in B and not in A (no false alarm).  (`C03_partial` in the sense
    of DESIGN: certification per executed call; `contains_shape` itself — a recursive geometric procedure
    on curves — is not modelled, only its dispatch rules below.)
 2. the order laws at the specification level for arbitrary region predicates `P Q : Pt → Bool`
    (`Sub P Q := ∀ r, P r → Q r`): `sub_refl`, `sub_trans`, `empty_sub`, `sub_whole`, `whole_sub_iff`,
    `sub_absorb` (B ⊆ A ⇒ A ∪ B = A ∧ A ∩ B = B, and conversely `absorb_sub`), and antisymmetry
    `sub_antisymm` (mutual containment = equal regions, the link to C07).
 3. the composition rules the code's dispatch relies on: `sub_all_iff` (contained in a ConnectedShape iff
    contained in every sub-shape), `any_sub_iff` (a DisjointShape is contained iff each component is),
    `all_sub_of_exists` (Connected ⊆ X if SOME sub-shape ⊆ X — sufficient, not necessary: see
    `all_sub_not_necessary`), `sub_any_of_exists` (X ⊆ Disjoint if X ⊆ some component — sufficient; it is
    also necessary only for connected X, which is not expressible pointwise), the complement duality
    `sub_compl_iff` (used for unbounded-in-unbounded), and the instances for the model's `Shape.memW`
    (`connected_sub_iff`, `disjoint_sub_iff`).

NOT proved: the straight-segment lemma of curve-in-shape, the correctness of `contains_jordan`
for curved boundaries, and the tolerance effects (C12).
-/
import ShapeVerif.Proofs.Slab
import ShapeVerif.Proofs.Algebra

namespace ShapeVerif.C03
open ShapeVerif

/-- region inclusion -/
def Sub (P Q : Pt → Bool) : Prop := ∀ r, P r = true → Q r = true

/-! ### (1) the certified checker -/
theorem subset_certified (B A : Shape) (h : regionSubset B A = true) (r : Pt)
    (hx : r.x ∉ criticalXs (A.edges ++ B.edges))
    (hoff : ∀ e ∈ A.edges ++ B.edges, e.onEdge r = false) :
    B.memW r = true → A.memW r = true :=
  regionSubset_sound B A h r hx (OffLines.of_not_onEdge _ r hoff)

theorem subset_rejection_has_witness (B A : Shape) (h : regionSubset B A = false) :
    ∃ s ∈ slabSamples (A.edges ++ B.edges), B.memW s = true ∧ A.memW s = false := by
  obtain ⟨s, hs, hp⟩ := exists_sample_of_slabCheck_eq_false _ _ h
  exact ⟨s, hs, by simpa using hp⟩

/-- a rejection refutes inclusion of the regions -/
theorem subset_rejection_refutes (B A : Shape) (h : regionSubset B A = false) : ¬ Sub B.memW A.memW := by
  obtain ⟨s, _, hb, ha⟩ := subset_rejection_has_witness B A h
  exact fun hsub => Bool.noConfusion ((hsub s hb).symm.trans ha)

/-- true inclusion is always accepted -/
theorem subset_complete (B A : Shape) (h : Sub B.memW A.memW) : regionSubset B A = true := by
  refine slabCheck_of_forall _ fun r => ?_
  cases hb : B.memW r
  · rfl
  · rw [h r hb]
    rfl

/-! ### (2) order laws -/
theorem sub_refl (P : Pt → Bool) : Sub P P := fun _ h => h
theorem sub_trans {P Q R : Pt → Bool} (h1 : Sub P Q) (h2 : Sub Q R) : Sub P R := fun r h => h2 r (h1 r h)
theorem empty_sub (P : Pt → Bool) : Sub (fun _ => false) P := fun _ h => Bool.noConfusion h
theorem sub_whole (P : Pt → Bool) : Sub P (fun _ => true) := fun _ _ => rfl
theorem whole_sub_iff (P : Pt → Bool) : Sub (fun _ => true) P ↔ ∀ r, P r = true :=
  ⟨fun h r => h r rfl, fun h r _ => h r⟩
theorem sub_empty_iff (P : Pt → Bool) : Sub P (fun _ => false) ↔ ∀ r, P r = false :=
  forall_congr' fun r => (by decide : ∀ p : Bool, (p = true → false = true) ↔ p = false) (P r)

/-- `B in A` ⇒ `A | B` is `A` and `A & B` is `B`, pointwise -/
theorem sub_absorb {P Q : Pt → Bool} (h : Sub Q P) :
    (∀ r, (P r || Q r) = P r) ∧ (∀ r, (P r && Q r) = Q r) :=
  ⟨fun r => Bool.or_eq_left_iff_imp.mpr (h r), fun r => Bool.and_eq_right_iff_imp.mpr (h r)⟩

/-- and conversely each of the two absorption laws characterises containment -/
theorem absorb_sub {P Q : Pt → Bool} (h : (∀ r, (P r || Q r) = P r) ∨ (∀ r, (P r && Q r) = Q r)) : Sub Q P :=
  fun r => h.elim (fun h => Bool.or_eq_left_iff_imp.mp (h r)) fun h => Bool.and_eq_right_iff_imp.mp (h r)

theorem sub_antisymm {P Q : Pt → Bool} (h1 : Sub P Q) (h2 : Sub Q P) : ∀ r, P r = Q r :=
  fun r => Bool.eq_iff_iff.mpr ⟨h1 r, h2 r⟩

/-! ### (3) composition rules of the dispatch -/
/-- contained in a ConnectedShape (intersection) iff contained in every sub-shape -/
theorem sub_all_iff (Q : Pt → Bool) (l : List (Pt → Bool)) :
    Sub Q (fun r => l.all (· r)) ↔ ∀ P ∈ l, Sub Q P := by
  constructor
  · intro h P hP r hq
    exact (List.all_eq_true.mp (h r hq)) P hP
  · intro h r hq
    exact List.all_eq_true.mpr (fun P hP => h P hP r hq)

/-- a DisjointShape (union) is contained iff every component is -/
theorem any_sub_iff (P : Pt → Bool) (l : List (Pt → Bool)) :
    Sub (fun r => l.any (· r)) P ↔ ∀ Q ∈ l, Sub Q P := by
  constructor
  · intro h Q hQ r hq
    exact h r (List.any_eq_true.mpr ⟨Q, hQ, hq⟩)
  · intro h r hq
    obtain ⟨Q, hQ, hq'⟩ := List.any_eq_true.mp hq
    exact h Q hQ r hq'

/-- the sufficient rule for Connected-in-X: some sub-shape is already contained -/
theorem all_sub_of_exists (Q : Pt → Bool) (l : List (Pt → Bool)) (h : ∃ P ∈ l, Sub P Q) :
    Sub (fun r => l.all (· r)) Q := by
  obtain ⟨P, hP, hs⟩ := h
  intro r hr
  exact hs r ((List.all_eq_true.mp hr) P hP)

/-- … which is not necessary: the intersection of two half planes `x > 0`, `x < 0` is empty, hence
contained in the empty region, but neither half plane is -/
theorem all_sub_not_necessary :
    ∃ (Q : Pt → Bool) (l : List (Pt → Bool)), Sub (fun r => l.all (· r)) Q ∧ ¬ ∃ P ∈ l, Sub P Q := by
  refine ⟨fun _ => false, [fun r => decide (0 < r.x), fun r => decide (r.x < 0)], ?_, ?_⟩
  · intro r hr
    simp only [List.all_cons, List.all_nil, Bool.and_true, Bool.and_eq_true, decide_eq_true_eq] at hr
    exact absurd (lt_trans hr.1 hr.2) (lt_irrefl _)
  · rintro ⟨P, hP, hs⟩
    simp only [List.mem_cons, List.not_mem_nil, or_false] at hP
    rcases hP with rfl | rfl
    · exact absurd (hs ⟨1, 0⟩ (by decide +kernel)) (by decide)
    · exact absurd (hs ⟨-1, 0⟩ (by decide +kernel)) (by decide)

/-- the sufficient rule for X-in-Disjoint: contained in some component -/
theorem sub_any_of_exists (Q : Pt → Bool) (l : List (Pt → Bool)) (h : ∃ P ∈ l, Sub Q P) :
    Sub Q (fun r => l.any (· r)) := by
  obtain ⟨P, hP, hs⟩ := h
  intro r hr
  exact List.any_eq_true.mpr ⟨P, hP, hs r hr⟩

/-- complement duality: `B ⊆ A` iff `~A ⊆ ~B` -/
theorem sub_compl_iff (P Q : Pt → Bool) : Sub P Q ↔ Sub (fun r => !Q r) (fun r => !P r) :=
  forall_congr' fun r =>
    (by decide : ∀ p q : Bool, (p = true → q = true) ↔ ((!q) = true → (!p) = true)) (P r) (Q r)

/-- instances for the model's shapes -/
theorem connected_sub_iff (Q : Pt → Bool) (js : List Jordan) :
    Sub Q (Shape.connected js).memW ↔ ∀ j ∈ js, Sub Q (Shape.simple j).memW := by
  have := sub_all_iff Q (js.map fun j => (Shape.simple j).memW)
  simp only [List.all_map, Function.comp_def, List.forall_mem_map] at this
  exact this

theorem disjoint_sub_iff (P : Pt → Bool) (cs : List (List Jordan)) :
    Sub (Shape.disjoint cs).memW P ↔ ∀ c ∈ cs, Sub (Shape.connected c).memW P := by
  have := any_sub_iff P (cs.map fun c => (Shape.connected c).memW)
  simp only [List.any_map, Function.comp_def, List.forall_mem_map] at this
  exact this

theorem empty_in_every_shape (A : Shape) : Sub Shape.empty.memW A.memW := empty_sub _
theorem every_shape_in_whole (A : Shape) : Sub A.memW Shape.whole.memW := sub_whole _

/-! ### non-vacuity -/
def big : Shape := .simple (Jordan.fromVertices [⟨0,0⟩, ⟨4,0⟩, ⟨4,4⟩, ⟨0,4⟩])
def small : Shape := .simple (Jordan.fromVertices [⟨1,1⟩, ⟨2,1⟩, ⟨2,2⟩, ⟨1,2⟩])
example : regionSubset small big = true ∧ regionSubset big small = false ∧
    regionSubset Shape.empty small = true ∧ regionSubset small Shape.whole = true ∧
    regionSubset Shape.whole small = false := by decide +kernel

end ShapeVerif.C03
