/-
C03b — the containment DISPATCH of shape.py is sound relative to its geometric leaf test.

`B in A` for defined shapes goes through `DefinedShape.contains_shape` and the three `_contains_shape` methods, which
combine `SimpleShape.__contains_simple` (the only place where geometry is tested) by loops over sub-shapes and, for
`Connected in Simple`, over complements.  `Gen/Contain.lean` is REGENERATED from the source on every run: the table
`Gen.containRule` says which loop is run for which pair of kinds.  `Model/Contain.lean` interprets such a table.

Each of the five loops is sound for the kinds of operand it fits (`loopOK`); all that is used of the regenerated table is that it
runs every loop only there (`containRule_loopOK`, row by row); the proof follows the evaluator once.

PROVED for the regenerated table, for ALL shapes of all kinds, all nesting depths (fuel), and EVERY leaf test:
 * `dispatch_sound_at` — at any point where (i) the leaf test is sound and (ii) complementing a curve complements its region,
   `A.contains_shape(B) = True` implies `B ⊆ A` there.  This is the direction C01 relies on (a wrong "True" makes `A | B`
   return a copy of A): no combination step of the dispatch can turn sound leaf answers into a wrong "True".
 * `dispatch_sound` — the same for the model's winding-number regions `memW`, at every point where each boundary curve
   involved has the winding range of a simple closed curve (0 or ±1 by orientation — the Jordan curve theorem, hypothesis as
   in C02) — with (ii) PROVED from `wind_invert` / `area_invert` for polygons.
 * `dispatch_empty_whole` — Empty is in every defined shape, Whole in none (regenerated head of `contains_shape`).
 * the converse fails by design: `Connected in Simple` tests `~A ⊆ ~B_i` for SOME i, which is sufficient
   but not necessary (C03.all_sub_not_necessary); the code then falls through to the boundary recombination, which is right.
-/
import ShapeVerif.Props.C03
import ShapeVerif.Gen.Contain
import ShapeVerif.Proofs.Reparam

namespace ShapeVerif.C03
open ShapeVerif

/-! ### `memAt` and the curves of the sub-shapes (`Shape.ofComp`, `Shape.subs` of Model/Contain.lean) -/

theorem memAt_ofComp (reg : Jordan → Bool) (c : List Jordan) : memAt reg (Shape.ofComp c) = c.all reg := by
  unfold Shape.ofComp
  split
  · simp [memAt]
  · rfl

theorem jordans_ofComp (c : List Jordan) : (Shape.ofComp c).jordans = c := by
  unfold Shape.ofComp
  split <;> rfl

/-- a connected shape is the intersection of its sub-shapes -/
theorem memAt_connected_subs (reg : Jordan → Bool) : ∀ {S : Shape}, S.ckind = some .connected →
    memAt reg S = S.subs.all (memAt reg)
  | .connected js, _ => by simp [Shape.subs, memAt, List.all_map, Function.comp_def]

/-- a disjoint shape is the union of its sub-shapes -/
theorem memAt_disjoint_subs (reg : Jordan → Bool) : ∀ {S : Shape}, S.ckind = some .disjoint →
    memAt reg S = S.subs.any (memAt reg)
  | .disjoint cs, _ => by
    simp only [Shape.subs, List.any_map, Function.comp_def, memAt_ofComp]
    rfl

theorem forall_jordans_subs {P : Jordan → Prop} {A s : Shape} (hA : ∀ j ∈ A.jordans, P j) (hs : s ∈ A.subs) :
    ∀ j ∈ s.jordans, P j := by
  intro j hj
  apply hA
  cases A with
  | connected js =>
    obtain ⟨k, hk, rfl⟩ := List.mem_map.mp hs
    rwa [List.mem_singleton.mp hj]
  | disjoint cs =>
    obtain ⟨c, hc, rfl⟩ := List.mem_map.mp hs
    rw [jordans_ofComp] at hj
    exact List.mem_flatten.mpr ⟨c, hc, hj⟩
  | _ => cases hs

/-- "reversing the curve complements its region" holds again for the reversed curve -/
theorem compl_invert {reg : Jordan → Bool} {j : Jordan} (h : reg j.invert = !reg j) :
    ∀ k ∈ (Shape.simple j.invert).jordans, reg k.invert = !reg k := by
  intro k hk
  rw [List.mem_singleton.mp hk, Alg.invert_invert, h, Bool.not_not]

/-! ### each loop is sound for the kinds it fits, and the table runs it only there -/

/-- the kinds a loop fits: `allSelf` reads `self` as the intersection of its sub-shapes, `anySelf` as their union;
`allOther` reads `other` as the union of its sub-shapes, `anyComplOther` as their intersection -/
def loopOK : CRule → CKind → CKind → Bool
  | .leaf, _, _ => true
  | .allSelf, ks, _ => ks = .connected
  | .anySelf, ks, _ => ks = .disjoint
  | .allOther, _, ko => ko = .disjoint
  | .anyComplOther, _, ko => ko = .connected

/-- every row of the regenerated table fits (a change of the source that breaks soundness shows up here) -/
theorem containRule_loopOK {ks ko : CKind} {r : CRule} (h : Gen.containRule ks ko = some r) : loopOK r ks ko = true := by
  cases ks <;> cases ko <;> cases h <;> rfl

/-- soundness of the regenerated dispatch at one point; `P` singles out the curves for which complementing the curve
complements the region at this point (only the curves of the two operands are ever asked) -/
theorem dispatch_sound_at (reg : Jordan → Bool) (leaf : Jordan → Jordan → Bool) (P : Jordan → Prop)
    (hleaf : ∀ a b, leaf a b = true → reg b = true → reg a = true)
    (hinv : ∀ j, P j → reg j.invert = !reg j) :
    ∀ (fuel : Nat) (A B : Shape), (∀ j ∈ A.jordans, P j) → (∀ j ∈ B.jordans, P j) →
      containsShape Gen.containRule leaf fuel A B = true → memAt reg B = true → memAt reg A = true := by
  intro fuel A B hA hB
  -- all that is used of `P`; the reversed curves have it again (`compl_invert`), so the induction covers the complement rule
  replace hA : ∀ j ∈ A.jordans, reg j.invert = !reg j := fun j hj => hinv j (hA j hj)
  replace hB : ∀ j ∈ B.jordans, reg j.invert = !reg j := fun j hj => hinv j (hB j hj)
  induction fuel generalizing A B with
  | zero => intro h; cases h
  | succ n ih =>
    intro h hmB
    -- along the branches of the evaluator: `other` Empty, Whole, defined; the kinds; the loop the table names, which fits
    unfold containsShape at h
    split at h
    · simp [memAt] at hmB
    · simp at h
    · split at h
      next ks ko hks hko =>
        split at h
        next hr =>  -- leaf
          split at h
          · exact hleaf _ _ h hmB
          · cases h
        next hr =>  -- allSelf
          obtain rfl : ks = .connected := of_decide_eq_true (containRule_loopOK hr)
          rw [memAt_connected_subs reg hks, List.all_eq_true]
          exact fun s hs => ih s B (forall_jordans_subs hA hs) hB (List.all_eq_true.mp h s hs) hmB
        next hr =>  -- anySelf
          obtain rfl : ks = .disjoint := of_decide_eq_true (containRule_loopOK hr)
          obtain ⟨s, hs, h'⟩ := List.any_eq_true.mp h
          rw [memAt_disjoint_subs reg hks, List.any_eq_true]
          exact ⟨s, hs, ih s B (forall_jordans_subs hA hs) hB h' hmB⟩
        next hr =>  -- allOther
          obtain rfl : ko = .disjoint := of_decide_eq_true (containRule_loopOK hr)
          rw [memAt_disjoint_subs reg hko, List.any_eq_true] at hmB
          obtain ⟨o, ho, hmo⟩ := hmB
          exact ih A o hA (forall_jordans_subs hB ho) (List.all_eq_true.mp h o ho) hmo
        next hr =>  -- anyComplOther
          obtain rfl : ko = .connected := of_decide_eq_true (containRule_loopOK hr)
          rw [memAt_connected_subs reg hko, List.all_eq_true] at hmB
          split at h
          next a =>
            obtain ⟨o, ho, h'⟩ := List.any_eq_true.mp h
            split at h'
            next b =>
              have ha := hA a (List.mem_singleton_self a)
              have hb := forall_jordans_subs hB ho b (List.mem_singleton_self b)
              have hpb : reg b = true := hmB _ ho
              -- the point is in b as in every member of B, and ~A ⊆ ~b there (induction)
              have := ih _ _ (compl_invert hb) (compl_invert ha) h'
              simpa only [memAt, ha, hb, hpb, Bool.not_eq_eq_eq_not, Bool.not_true, Bool.false_eq_true, imp_false,
                Bool.not_eq_false] using this
            · cases h'
          · cases h
        · cases h
      · cases h

/-- a curve has the winding range of a simple closed curve at `r`: 0 outside, +1 / −1 inside by orientation, and a non-zero
area (what the Jordan curve theorem gives for simple closed polygons off their boundary) -/
def JordanAt (j : Jordan) (r : Pt) : Prop :=
  j.isPolygon = true ∧ j.area ≠ 0 ∧ (wind j.edges r = 0 ∨ wind j.edges r = (if j.ccw then 1 else -1))

/-- complementing such a curve complements its region at `r` (proved, not assumed: `wind_invert`, `area_invert`) -/
theorem memW_invert_of_jordanAt (j : Jordan) (r : Pt) (h : JordanAt j r) :
    ShapeVerif.memW j.invert r = !ShapeVerif.memW j r := by
  obtain ⟨-, ha, hw⟩ := h
  -- the orientation flips (the area changes sign and is not 0) and the crossing number changes sign
  have hc : j.invert.ccw = !j.ccw := by
    unfold Jordan.ccw
    rw [Jordan.area_invert, ← decide_not]
    exact decide_eq_decide.mpr
      ⟨fun h => not_lt.mpr (neg_pos.mp h).le, fun h => neg_pos.mpr (lt_of_le_of_ne (not_lt.mp h) ha)⟩
  unfold ShapeVerif.memW
  rw [hc, Alg.wind_invert]
  rcases hw with h0 | h1
  · rw [h0]; cases j.ccw <;> rfl
  · rw [h1]; cases j.ccw <;> rfl

/-- soundness of the regenerated dispatch for the model's regions: wherever every boundary curve of the two operands has the
winding range of a simple closed curve and the leaf test is sound, a `True` of `A.contains_shape(B)` means B ⊆ A there -/
theorem dispatch_sound (leaf : Jordan → Jordan → Bool) (r : Pt)
    (hleaf : ∀ a b, leaf a b = true → ShapeVerif.memW b r = true → ShapeVerif.memW a r = true)
    (fuel : Nat) (A B : Shape) (hA : ∀ j ∈ A.jordans, JordanAt j r) (hB : ∀ j ∈ B.jordans, JordanAt j r)
    (h : containsShape Gen.containRule leaf fuel A B = true) (hr : B.memW r = true) : A.memW r = true := by
  rw [memW_eq_memAt] at hr ⊢
  exact dispatch_sound_at (fun j => ShapeVerif.memW j r) leaf (fun j => JordanAt j r) hleaf
    (fun j hj => memW_invert_of_jordanAt j r hj) fuel A B hA hB h hr

/-- Empty is contained in every shape and Whole in no defined shape: the regenerated head of `contains_shape` -/
theorem dispatch_empty_whole :
    Gen.containsEmptyAnswer = true ∧ Gen.containsWholeAnswer = false ∧
    (∀ leaf fuel A, containsShape Gen.containRule leaf (fuel + 1) A .empty = true) ∧
    (∀ leaf fuel A, containsShape Gen.containRule leaf fuel A .whole = false) := by
  refine ⟨rfl, rfl, fun _ _ _ => rfl, fun _ fuel _ => ?_⟩
  cases fuel <;> rfl

/-- the regenerated table: which loop is run for which pair of kinds (a change of the source shows up here first) -/
theorem dispatch_table :
    Gen.containRule .simple .simple = some .leaf ∧ Gen.containRule .simple .connected = some .anyComplOther ∧
    Gen.containRule .simple .disjoint = some .allOther ∧
    (∀ k, Gen.containRule .connected k = some .allSelf) ∧
    Gen.containRule .disjoint .simple = some .anySelf ∧ Gen.containRule .disjoint .connected = some .anySelf ∧
    Gen.containRule .disjoint .disjoint = some .allOther := by
  refine ⟨rfl, rfl, rfl, fun k => by cases k <;> rfl, rfl, rfl, rfl⟩

/-! ### the leaf test `SimpleShape.__contains_simple` as a decision over its geometric tests (regenerated: `Gen.containsSimpleTable`) -/

/-- what the decision SHOULD be, written from the geometry (A = `other`, B = `self`; is A ⊆ B?).  For simple closed curves that do not cross:
an unbounded region is never inside a bounded one; when the boxes are apart A ⊆ B iff A is bounded and B is the outside of a curve;
bounded-in-unbounded: the curve of A lies in B and the curve of B does not lie in A; same type: A cannot be larger, its curve must lie in B,
and for two unbounded regions the question is the one for the complements with the roles exchanged -/
def containsSimpleSpec (aPos aNeg bPos bNeg boxApart jaIn jbIn aGtB recC : Bool) : Bool :=
  if aNeg && bPos then false
  else if boxApart then aPos && bNeg
  else if aPos && bNeg then jaIn && !jbIn
  else if aGtB || !jaIn then false
  else if aPos then true
  else recC

/-- the table regenerated from the source IS the specification, on all 512 combinations of answers of its tests (any rewrite of the source that
is equal as a boolean function re-proves) -/
theorem source_contains_simple_is_spec : ∀ aPos aNeg bPos bNeg boxApart jaIn jbIn aGtB recC : Bool,
    Gen.containsSimpleTable aPos aNeg bPos bNeg boxApart jaIn jbIn aGtB recC
      = containsSimpleSpec aPos aNeg bPos bNeg boxApart jaIn jbIn aGtB recC := by decide +kernel

/-- consequences, for every combination of the remaining tests: an unbounded shape is never reported inside a bounded one … -/
theorem unbounded_never_in_bounded (boxApart jaIn jbIn aGtB recC : Bool) :
    Gen.containsSimpleTable false true true false boxApart jaIn jbIn aGtB recC = false := by
  -- the first test of the specification
  rw [source_contains_simple_is_spec]
  rfl

/-- … a bounded shape whose curve does not lie in the (bounded or unbounded) candidate container is never reported inside it (boxes meeting) … -/
theorem curve_outside_means_not_contained (aPos aNeg bPos bNeg jbIn aGtB recC : Bool) (h : (aNeg && bPos) = false) :
    Gen.containsSimpleTable aPos aNeg bPos bNeg false false jbIn aGtB recC = false := by
  -- past the first two tests, both remaining branches of the specification ask for `jaIn`
  rw [source_contains_simple_is_spec]
  simp [containsSimpleSpec, h]

/-- … a bounded shape of larger area is never reported inside a bounded one … -/
theorem larger_never_in_smaller (boxApart jaIn jbIn recC : Bool) :
    Gen.containsSimpleTable true false true false boxApart jaIn jbIn true recC = false := by
  -- boxes apart: B is not the outside of a curve; boxes meeting: the test `aGtB`
  rw [source_contains_simple_is_spec]
  cases boxApart <;> rfl

/-- … and for two unbounded shapes (boxes meeting, A's curve in B, A not larger) the answer is exactly the answer for the complements -/
theorem both_unbounded_is_complement_question (jbIn recC : Bool) :
    Gen.containsSimpleTable false true false true false true jbIn false recC = recC := by
  -- the last branch of the specification
  rw [source_contains_simple_is_spec]
  rfl

/-! ### non-vacuity: the interpreted dispatch on concrete polygons, leaf test = the verified region checker -/
def rsLeaf (a b : Jordan) : Bool := regionSubset (.simple b) (.simple a)
def sqr (x0 y0 x1 y1 : Rat) : Jordan := Jordan.fromVertices [⟨x0, y0⟩, ⟨x1, y0⟩, ⟨x1, y1⟩, ⟨x0, y1⟩]
def ring : Shape := .connected [sqr 0 0 4 4, (sqr 1 1 2 2).invert]
-- Simple in Simple (leaf), both directions
example : containsShape Gen.containRule rsLeaf 4 (.simple (sqr 0 0 4 4)) (.simple (sqr 1 1 2 2)) = true := by decide +kernel
example : containsShape Gen.containRule rsLeaf 4 (.simple (sqr 1 1 2 2)) (.simple (sqr 0 0 4 4)) = false := by decide +kernel
-- Simple in Connected (all sub-shapes must contain it): a square beside the hole is in the ring, the hole's square is not
example : containsShape Gen.containRule rsLeaf 4 ring (.simple (sqr (5/2) (5/2) (7/2) (7/2))) = true := by decide +kernel
example : containsShape Gen.containRule rsLeaf 4 ring (.simple (sqr 1 1 2 2)) = false := by decide +kernel
-- Connected in Simple (complement rule): the ring is in the square that bounds it
example : containsShape Gen.containRule rsLeaf 4 (.simple (sqr 0 0 4 4)) ring = true := by decide +kernel
-- Disjoint in Simple (every component) and Simple in Disjoint (some component)
example : containsShape Gen.containRule rsLeaf 4 (.simple (sqr 0 0 4 4)) (.disjoint [[sqr 1 1 2 2], [sqr 3 3 (7/2) (7/2)]]) = true := by
  decide +kernel
example : containsShape Gen.containRule rsLeaf 4 (.disjoint [[sqr 1 1 2 2], [sqr 5 5 9 9]]) (.simple (sqr 6 6 7 7)) = true := by
  decide +kernel
-- the hypotheses of `dispatch_sound` are satisfiable: the winding range of a square at an interior point
example : JordanAt (sqr 0 0 4 4) ⟨1, 1⟩ := ⟨by decide +kernel, by decide +kernel, Or.inr (by decide +kernel)⟩

end ShapeVerif.C03
