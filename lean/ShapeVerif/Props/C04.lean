/-
C04 — `IntegrateShape.polynomial(S, a, b)` is the integral of x^a y^b over the region.

The code integrates x^(a+1) y^b dy over every boundary segment with the OPEN Newton–Cotes rule on
`nnodes = 3 + (a+1) + b + degree` nodes (`vertical`); the truth is `exactVertical` (exact polynomial
integration of the same integrand).  Quantifiers: every theorem is for ALL rational control points.
The statements are in the ranges of the property text (node counts n ≤ 24, degree ≤ 3, low orders); each is an instance
of the statement for every n, every degree and every exponent, so the range hypotheses are not used:
  * polygons: the code's value IS the exact rational (stated for a + b ≤ 19);
  * quadratic boundaries: exact for a + b ≤ 3 (area, first, second and third moments);
  * cubic boundaries: the AREA is exact; first moments are in general NOT exact (see the last example):
    this is the "agree to quadrature accuracy" clause;
  * Green anchors: rectangles, triangles, a parabola segment; orientation reversal; additivity.
-/
import ShapeVerif.Proofs.NewtonCotes
import ShapeVerif.Proofs.StraightEdges
import ShapeVerif.Gen.Tables

namespace ShapeVerif.C04
open ShapeVerif

/-! ### the quadrature rule -/

/-- `open_newton_cotes(n)` on `open_linspace(n)` integrates every monomial x^k, k < n, exactly on [0,1]
(1 ≤ n ≤ 24) -/
theorem newton_cotes_exact_on_monomials (n : Nat) (h1 : 1 ≤ n) (hN : n ≤ 24) (k : Nat) (hk : k < n) :
    quad n (fun x => x ^ k) = 1 / ((k : Rat) + 1) := quad_exact_monomial n k hk

/-- for an odd number of nodes the rule gains one degree (it is symmetric): x^n is integrated exactly too -/
theorem newton_cotes_exact_on_monomials_odd (n : Nat) (h1 : 1 ≤ n) (hN : n ≤ 24) (hodd : n % 2 = 1)
    (k : Nat) (hk : k ≤ n) : quad n (fun x => x ^ k) = 1 / ((k : Rat) + 1) :=
  quad_exact_monomial_odd n hodd k hk

/-- the `n`-node rule integrates every polynomial with at most `n` coefficients (degree < n) exactly -/
theorem newton_cotes_exact_on_polynomials (n : Nat) (h1 : 1 ≤ n) (hN : n ≤ 24) (p : List Rat)
    (hp : p.length ≤ n) : quad n (peval p) = pint01 p := quad_exact_poly_count n p (by omega)

/-- … and with at most `n + 1` coefficients when `n` is odd -/
theorem newton_cotes_exact_on_polynomials_odd (n : Nat) (h1 : 1 ≤ n) (hN : n ≤ 24) (hodd : n % 2 = 1)
    (p : List Rat) (hp : p.length ≤ n + 1) : quad n (peval p) = pint01 p :=
  quad_exact_poly_count n p (by omega)

/-! ### polygons are exact -/

/-- `IntegratePlanar.vertical(edge, a, b)` with its default node count is the exact ∫ x^a y^b dy over a
straight edge, for all vertices and all exponents with a + b ≤ 20 -/
theorem polygon_edge_exact (p q : Pt) (a b : Nat) (h : a + b ≤ 20) :
    vertical [p, q] a b = exactVertical [p, q] a b :=
  vertical_eq_exact_line _ rfl a b

/-- `IntegrateShape.polynomial(S, a, b)` of a polygonal shape (any number of boundary polygons, any
rational vertices) is the exact rational moment, for all exponents with a + b ≤ 19 -/
theorem polygon_moment_exact (js : List (List Seg)) (hjs : ∀ j ∈ js, ∀ s ∈ j, s.length = 2)
    (a b : Nat) (h : a + b ≤ 19) : shapePolynomial js a b = shapeExactMoment js a b :=
  shapePolynomial_polygon js hjs a b

/-! ### curved boundaries -/

/-- a quadratic segment: the code's ∫ x^a y^b dy is exact for a + b ≤ 4 -/
theorem quadratic_segment_exact (p0 p1 p2 : Pt) (a b : Nat) (h : a + b ≤ 4) :
    vertical [p0, p1, p2] a b = exactVertical [p0, p1, p2] a b :=
  vertical_eq_exact_quadratic _ rfl a b h

/-- a cubic segment: the code's ∫ x^a y^b dy is exact for a + b ≤ 1 — in particular `IntegrateShape.area`
(`a = 1, b = 0`) -/
theorem cubic_segment_exact (p0 p1 p2 p3 : Pt) (a b : Nat) (h : a + b ≤ 1) :
    vertical [p0, p1, p2, p3] a b = exactVertical [p0, p1, p2, p3] a b :=
  vertical_eq_exact_cubic _ rfl a b h

/-- the area integrand of a quadratic segment -/
theorem quadratic_area_exact (p0 p1 p2 : Pt) :
    vertical [p0, p1, p2] 1 0 = exactVertical [p0, p1, p2] 1 0 := quadratic_segment_exact p0 p1 p2 1 0 (by omega)

/-- the area integrand of a cubic segment -/
theorem cubic_area_exact (p0 p1 p2 p3 : Pt) :
    vertical [p0, p1, p2, p3] 1 0 = exactVertical [p0, p1, p2, p3] 1 0 :=
  cubic_segment_exact p0 p1 p2 p3 1 0 (by omega)

/-- `IntegrateShape.polynomial(S, a, b)` is exact for a + b ≤ 3 when every boundary segment has degree ≤ 2 -/
theorem shape_deg2_moment_exact (js : List (List Seg))
    (hjs : ∀ j ∈ js, ∀ s ∈ j, s.length = 2 ∨ s.length = 3) (a b : Nat) (h : a + b ≤ 3) :
    shapePolynomial js a b = shapeExactMoment js a b :=
  shapePolynomial_congr js a b fun j hj s hs =>
    (hjs j hj s hs).elim (fun h2 => vertical_eq_exact_line s h2 (a + 1) b)
      (fun h3 => vertical_eq_exact_quadratic s h3 (a + 1) b (by omega))

/-- `IntegrateShape.area(S)` is exact when every boundary segment has degree ≤ 3 -/
theorem shape_deg3_area_exact (js : List (List Seg))
    (hjs : ∀ j ∈ js, ∀ s ∈ j, s.length = 2 ∨ s.length = 3 ∨ s.length = 4) :
    shapePolynomial js 0 0 = shapeExactMoment js 0 0 :=
  shapePolynomial_congr js 0 0 fun j hj s hs => by
    -- no case split: the area integrand has `2 · degree` coefficients, within the rule's reach up to degree 5
    have h := hjs j hj s hs
    exact vertical_eq_exact s (by omega) 1 0 (by simp only [Seg.degree]; omega)

/-! ### Green-theorem anchors: the exact value is the double integral on regions with a known answer -/

/-- ∫∫ x^a y^b over the rectangle [x0,x1]×[y0,y1], a + b ≤ 2 -/
theorem rectangle_moment_00 (x0 y0 x1 y1 : Rat) :
    Jordan.moment (rect x0 y0 x1 y1) 0 0 = (x1 ^ 1 - x0 ^ 1) / 1 * ((y1 ^ 1 - y0 ^ 1) / 1) :=
  Jordan.moment_rect x0 y0 x1 y1 0 0
theorem rectangle_moment_10 (x0 y0 x1 y1 : Rat) :
    Jordan.moment (rect x0 y0 x1 y1) 1 0 = (x1 ^ 2 - x0 ^ 2) / 2 * ((y1 ^ 1 - y0 ^ 1) / 1) :=
  Jordan.moment_rect x0 y0 x1 y1 1 0
theorem rectangle_moment_01 (x0 y0 x1 y1 : Rat) :
    Jordan.moment (rect x0 y0 x1 y1) 0 1 = (x1 ^ 1 - x0 ^ 1) / 1 * ((y1 ^ 2 - y0 ^ 2) / 2) :=
  Jordan.moment_rect x0 y0 x1 y1 0 1
theorem rectangle_moment_20 (x0 y0 x1 y1 : Rat) :
    Jordan.moment (rect x0 y0 x1 y1) 2 0 = (x1 ^ 3 - x0 ^ 3) / 3 * ((y1 ^ 1 - y0 ^ 1) / 1) :=
  Jordan.moment_rect x0 y0 x1 y1 2 0
theorem rectangle_moment_11 (x0 y0 x1 y1 : Rat) :
    Jordan.moment (rect x0 y0 x1 y1) 1 1 = (x1 ^ 2 - x0 ^ 2) / 2 * ((y1 ^ 2 - y0 ^ 2) / 2) :=
  Jordan.moment_rect x0 y0 x1 y1 1 1
theorem rectangle_moment_02 (x0 y0 x1 y1 : Rat) :
    Jordan.moment (rect x0 y0 x1 y1) 0 2 = (x1 ^ 1 - x0 ^ 1) / 1 * ((y1 ^ 3 - y0 ^ 3) / 3) :=
  Jordan.moment_rect x0 y0 x1 y1 0 2

/-- `rect` is `JordanCurve.from_vertices` on the four corners -/
theorem rect_def (x0 y0 x1 y1 : Rat) :
    rect x0 y0 x1 y1 = Jordan.fromVertices [⟨x0, y0⟩, ⟨x1, y0⟩, ⟨x1, y1⟩, ⟨x0, y1⟩] := rfl

/-- the signed area of a triangle is half the cross product of two edge vectors -/
theorem triangle_area (p q r : Pt) :
    Jordan.area (Jordan.fromVertices [p, q, r])
      = ((q.x - p.x) * (r.y - p.y) - (q.y - p.y) * (r.x - p.x)) / 2 := ShapeVerif.triangle_area p q r

/-- first moments of a triangle = area × centroid coordinates -/
theorem triangle_moment_x (p q r : Pt) :
    Jordan.moment (Jordan.fromVertices [p, q, r]) 1 0
      = Jordan.area (Jordan.fromVertices [p, q, r]) * ((p.x + q.x + r.x) / 3) := by
  rw [ShapeVerif.triangle_area]; exact triangle_moment_10 p q r
theorem triangle_moment_y (p q r : Pt) :
    Jordan.moment (Jordan.fromVertices [p, q, r]) 0 1
      = Jordan.area (Jordan.fromVertices [p, q, r]) * ((p.y + q.y + r.y) / 3) := by
  rw [ShapeVerif.triangle_area]; exact triangle_moment_01 p q r

/-- curved anchor (Archimedes): a quadratic arc and its chord enclose 2/3 of the control triangle -/
theorem parabola_segment_area (p0 p1 p2 : Pt) :
    Jordan.area [[p0, p1, p2], [p2, p0]] = 2 / 3 * Jordan.area (Jordan.fromVertices [p0, p1, p2]) := by
  rw [ShapeVerif.triangle_area]; exact ShapeVerif.parabola_segment_area p0 p1 p2

/-! ### orientation reversal and additivity -/

/-- reversing a segment of degree ≤ 3 negates ∫ x^a y^b dy (a + b ≤ 4) -/
theorem segment_reverse_neg (s : Seg) (hs : s.length = 2 ∨ s.length = 3 ∨ s.length = 4) (a b : Nat)
    (h : a + b ≤ 4) : exactVertical s.reverse a b = - exactVertical s a b := exactVertical_reverse s a b

/-- `JordanCurve.invert` negates every moment of order a + b ≤ 3 (curves of degree ≤ 3) -/
theorem invert_neg_moment (j : Jordan) (hj : ∀ s ∈ j, s.length = 2 ∨ s.length = 3 ∨ s.length = 4)
    (a b : Nat) (h : a + b ≤ 3) : Jordan.moment j.invert a b = - Jordan.moment j a b :=
  Jordan.moment_invert j a b

/-- … in particular the signed area -/
theorem invert_neg_area (j : Jordan) (hj : ∀ s ∈ j, s.length = 2 ∨ s.length = 3 ∨ s.length = 4) :
    Jordan.area j.invert = - Jordan.area j := area_invert j hj

/-- the boundary integral is additive over concatenated segment lists -/
theorem jordan_additive (j₁ j₂ : List Seg) (a b : Nat) :
    jordanExactVertical (j₁ ++ j₂) a b = jordanExactVertical j₁ a b + jordanExactVertical j₂ a b :=
  jordanExactVertical_append j₁ j₂ a b

/-- the moment of a shape is the sum over its boundary curves (outer boundary + holes) -/
theorem shape_additive (js₁ js₂ : List (List Seg)) (a b : Nat) :
    shapeExactMoment (js₁ ++ js₂) a b = shapeExactMoment js₁ a b + shapeExactMoment js₂ a b :=
  shapeExactMoment_append js₁ js₂ a b

/-- the same for the code's value -/
theorem shape_additive_code (js₁ js₂ : List (List Seg)) (a b : Nat) :
    shapePolynomial (js₁ ++ js₂) a b = shapePolynomial js₁ a b + shapePolynomial js₂ a b :=
  by simp [shapePolynomial, List.map_append, List.sum_append, add_div]

/-! ### non-vacuity -/

/-- an L-shaped hexagon (area 3, centroid (5/6, 5/6)) -/
def ell : Jordan := Jordan.fromVertices [⟨0, 0⟩, ⟨2, 0⟩, ⟨2, 1⟩, ⟨1, 1⟩, ⟨1, 2⟩, ⟨0, 2⟩]

example : ∀ j ∈ [ell], ∀ s ∈ j, s.length = 2 := by decide
example : Jordan.area ell = 3 := by decide +kernel
/-- the code's own quadrature value -/
example : shapePolynomial [ell] 0 0 = 3 := by decide +kernel
example : shapePolynomial [ell] 1 0 = 5 / 2 ∧ shapeExactMoment [ell] 1 0 = 5 / 2 := by
  have h : shapeExactMoment [ell] 1 0 = 5 / 2 := by decide +kernel
  exact ⟨(polygon_moment_exact [ell] (by decide) 1 0 (by omega)).trans h, h⟩
example : shapePolynomial [ell] 1 1 = shapeExactMoment [ell] 1 1 :=
  polygon_moment_exact [ell] (by decide) 1 1 (by omega)

/-- a region bounded by a quadratic and a cubic arc -/
def lens : Jordan := [[⟨0, 0⟩, ⟨2, -2⟩, ⟨4, 0⟩], [⟨4, 0⟩, ⟨3, 2⟩, ⟨1, 3⟩, ⟨0, 0⟩]]

example : ∀ j ∈ [lens], ∀ s ∈ j, s.length = 2 ∨ s.length = 3 ∨ s.length = 4 := by decide
example : shapePolynomial [lens] 0 0 = 95 / 12 ∧ shapeExactMoment [lens] 0 0 = 95 / 12 := by
  have h : shapeExactMoment [lens] 0 0 = 95 / 12 := by decide +kernel
  exact ⟨(shape_deg3_area_exact [lens] (by decide)).trans h, h⟩
example : Jordan.area lens.invert = - (95 / 12) := by decide +kernel

/-- the "quadrature accuracy" clause is real: the first moment of a cubic arc is NOT exact -/
example : vertical [⟨0, 0⟩, ⟨1, 2⟩, ⟨3, 0⟩, ⟨4, 1⟩] 2 0 ≠ exactVertical [⟨0, 0⟩, ⟨1, 2⟩, ⟨3, 0⟩, ⟨4, 1⟩] 2 0 := by
  decide +kernel

/-! ### tie to the source: formulas regenerated from `IntegratePlanar.vertical` and `IntegrateShape.polynomial` on every run -/

/-- the default node count the code uses is the one the exactness theorems above are about (3 + a + b + degree) -/
theorem translated_node_count (a b deg : Nat) : Gen.verticalNodes a b deg = 3 + a + b + deg := by
  unfold Gen.verticalNodes; omega

/-- `IntegrateShape.polynomial(S, a, b)` integrates x^(a+1) y^b dy and divides by a+1 (Green's theorem for the moment) -/
theorem translated_moment_reduction (a b : Nat) :
    Gen.momentExpX a b = a + 1 ∧ Gen.momentExpY a b = b ∧ Gen.momentDivisor a b = a + 1 := by
  unfold Gen.momentExpX Gen.momentExpY Gen.momentDivisor; omega

/-- hence the model's `vertical` is the code's integral with the regenerated node count -/
theorem code_vertical_is_model_vertical (s : Seg) (a b : Nat) :
    verticalN s a b (Gen.verticalNodes a b s.degree) = vertical s a b := by
  rw [translated_node_count]; rfl

end ShapeVerif.C04
