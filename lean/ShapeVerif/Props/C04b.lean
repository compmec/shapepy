/-
C04b — exactness of the code's integrator without bounds: the open Newton–Cotes rule on `open_linspace(n)` integrates x^k
exactly for k < n (k ≤ n for odd n) for EVERY n, `derivate()` is the derivative for EVERY degree, hence the code's moment
of a polygon is the exact moment for EVERY exponent, and the exactness domain of the default node count for curved pieces.
Green anchors for every exponent (rectangles, axis-parallel edges, second moments of triangles, chord cuts).
SOURCE TIE (Gen/Arith.lean, Gen/Integrals.lean are regenerated from curve.py on every run): `Math.open_linspace` and the
body of `IntegratePlanar.vertical` as written are the model's nodes and `verticalN`, so the exactness theorems are about the
code as written.
-/
import ShapeVerif.Props.C04
import ShapeVerif.Gen.Arith
import ShapeVerif.Gen.Integrals

namespace ShapeVerif.C04
open ShapeVerif

/-- the n-node open Newton–Cotes rule integrates x^k, k < n, exactly — for EVERY n ≥ 1 -/
theorem newton_cotes_exact_all (n : Nat) (h1 : 1 ≤ n) (k : Nat) (hk : k < n) :
    quad n (fun x => x ^ k) = 1 / ((k : Rat) + 1) := quad_exact_monomial n k hk

/-- an odd number of nodes gains one degree — for EVERY odd n -/
theorem newton_cotes_exact_odd_all (n : Nat) (h1 : 1 ≤ n) (hodd : n % 2 = 1) (k : Nat) (hk : k ≤ n) :
    quad n (fun x => x ^ k) = 1 / ((k : Rat) + 1) := quad_exact_monomial_odd n hodd k hk

/-- the rule is symmetric about 1/2 — for EVERY n and every integrand -/
theorem newton_cotes_symmetric (n : Nat) (f : Rat → Rat) : quad n (fun t => f (1 - t)) = quad n f :=
  quad_reflect n f

/-- `derivate()` is the derivative for every degree -/
theorem derivative_ok_all (s : Seg) : DerivOK s := derivSeg_derivOK s

/-- `IntegrateShape.polynomial(S, a, b)` of a polygonal shape is the exact rational moment for ALL a, b -/
theorem polygon_moment_exact_all (js : List (List Seg)) (hjs : ∀ j ∈ js, ∀ s ∈ j, s.length = 2) (a b : Nat) :
    shapePolynomial js a b = shapeExactMoment js a b :=
  shapePolynomial_polygon js hjs a b

/-- quadratic boundary pieces: the segment integral is exact for a + b ≤ 4 (moments of the shape up to order 3) -/
theorem quadratic_segment_exact_all (s : Seg) (hs : s.length = 3) (a b : Nat) (h : a + b ≤ 4) :
    vertical s a b = exactVertical s a b :=
  vertical_eq_exact_quadratic s hs a b h

/-- cubic boundary pieces: exact for a + b ≤ 1 (the area of the shape) -/
theorem cubic_segment_exact_all (s : Seg) (hs : s.length = 4) (a b : Nat) (h : a + b ≤ 1) :
    vertical s a b = exactVertical s a b :=
  vertical_eq_exact_cubic s hs a b h

/-- the area integrand ∫ x dy of a boundary piece of ANY degree d is integrated exactly iff 2d ≤ n + n mod 2 with
n = 4 + d: true exactly for d ≤ 5 — the default node count is NOT enough for the area of degree-6 boundaries -/
theorem area_exact_up_to_degree_5 (s : Seg) (hs : 2 ≤ s.length) (hd : s.degree ≤ 5) :
    vertical s 1 0 = exactVertical s 1 0 :=
  vertical_eq_exact s hs 1 0 (by omega)

set_option linter.unusedTactic false in
set_option linter.unreachableTactic false in
/-- `Math.open_linspace(n)` as written in the source is the node list of the model: (2i+1)/(2n), i < n -/
theorem source_open_linspace_is_model (n : Nat) : Gen.openLinspace n = openNodes n := by
  -- (two scripts: the source written as `Fraction(2k+1, 2n) for k in range(n)` is the model verbatim; the stepped range needs index arithmetic)
  first
  | rfl
  | (simp only [Gen.openLinspace, openNodes]
     have h : (2 * n - 1 + 1) / 2 = n := by omega
     rw [h]
     apply List.ext_getElem
     · simp
     · intro i h1 h2
       simp only [List.getElem_map, List.getElem_range', List.getElem_range]
       rw [Nat.add_comm 1 (2 * i)])

/-- `Math.closed_linspace(n)` as written in the source: i/(n−1), i < n; first node 0, last node 1 -/
theorem source_closed_linspace (n : Nat) : Gen.closedLinspace n = (List.range n).map fun i => ((i : Nat) : Rat) / ((n - 1 : Nat) : Rat) := by
  simp only [Gen.closedLinspace]

/-! ### Green anchors: second moments of triangles, and additivity under a chord cut (with triangulation this pins the functional down) -/

theorem triangle_second_moments (p q r : Pt) :
    Jordan.moment (Jordan.fromVertices [p, q, r]) 2 0
        = triCross p q r / 12 * (p.x ^ 2 + q.x ^ 2 + r.x ^ 2 + p.x * q.x + q.x * r.x + r.x * p.x) ∧
    Jordan.moment (Jordan.fromVertices [p, q, r]) 0 2
        = triCross p q r / 12 * (p.y ^ 2 + q.y ^ 2 + r.y ^ 2 + p.y * q.y + q.y * r.y + r.y * p.y) ∧
    Jordan.moment (Jordan.fromVertices [p, q, r]) 1 1
        = triCross p q r / 24 * (2 * (p.x * p.y + q.x * q.y + r.x * r.y) + p.x * q.y + q.x * p.y + q.x * r.y + r.x * q.y
            + r.x * p.y + p.x * r.y) :=
  ⟨triangle_moment_20 p q r, triangle_moment_02 p q r, triangle_moment_11 p q r⟩

/-- cutting the polygon p, l1…, q, l2… along the chord p–q: EVERY moment of the whole is the sum of the moments of the two parts (the chord is
traversed once in each direction and cancels) — all vertex lists, all exponents, degenerate cuts included -/
theorem moment_additive_under_chord_cut (l1 l2 : List Pt) (p q : Pt) (a b : Nat) :
    Jordan.moment (Jordan.fromVertices (p :: l1 ++ q :: l2)) a b
      = Jordan.moment (Jordan.fromVertices (p :: l1 ++ [q])) a b + Jordan.moment (Jordan.fromVertices (q :: l2 ++ [p])) a b :=
  chord_cut_moment l1 l2 p q a b

/-- in particular a quadrilateral is its two triangles: area and every moment -/
theorem quadrilateral_is_two_triangles (p u q w : Pt) (a b : Nat) :
    Jordan.moment (Jordan.fromVertices [p, u, q, w]) a b
      = Jordan.moment (Jordan.fromVertices [p, u, q]) a b + Jordan.moment (Jordan.fromVertices [q, w, p]) a b :=
  chord_cut_moment [u] [w] p q a b

/-- ground truth for EVERY moment: on an axis-parallel rectangle the Green boundary integral the code computes is the iterated integral
∫ x^a dx · ∫ y^b dy, for all exponents and all rational corners (orientation included: a clockwise rectangle gives the negative) -/
theorem rectangle_moment_all (x0 y0 x1 y1 : Rat) (a b : Nat) :
    Jordan.moment (rect x0 y0 x1 y1) a b
      = (x1 ^ (a + 1) - x0 ^ (a + 1)) / ((a + 1 : Nat) : Rat) * ((y1 ^ (b + 1) - y0 ^ (b + 1)) / ((b + 1 : Nat) : Rat)) :=
  Jordan.moment_rect x0 y0 x1 y1 a b

/-- … hence what the CODE's integrator (open Newton–Cotes on every edge with its default node count) returns for a rectangle is the iterated
integral, for ALL exponents: quadrature exactness (every n) + Green anchor (every a, b) -/
theorem code_rectangle_moment_all (x0 y0 x1 y1 : Rat) (a b : Nat) :
    shapePolynomial [rect x0 y0 x1 y1] a b
      = (x1 ^ (a + 1) - x0 ^ (a + 1)) / ((a + 1 : Nat) : Rat) * ((y1 ^ (b + 1) - y0 ^ (b + 1)) / ((b + 1 : Nat) : Rat)) := by
  have hpoly : ∀ j ∈ [rect x0 y0 x1 y1], ∀ s ∈ j, s.length = 2 := fun j hj =>
    List.mem_singleton.mp hj ▸ (Jordan.isPolygon_iff _).mp (Geom.fromVertices_polygon _)
  rw [polygon_moment_exact_all _ hpoly a b, shapeExactMoment_singleton, Jordan.moment_rect]

/-- a horizontal edge contributes nothing to ∫ … dy, a vertical edge contributes x^a (q.y^(b+1) − p.y^(b+1))/(b+1) — all exponents -/
theorem axis_parallel_edges (p q : Pt) (a b : Nat) :
    (p.y = q.y → exactVertical [p, q] a b = 0) ∧
    (p.x = q.x → exactVertical [p, q] a b = p.x ^ a * (q.y ^ (b + 1) - p.y ^ (b + 1)) / ((b + 1 : Nat) : Rat)) :=
  ⟨fun h => exactVertical_horizontal_edge p q h a b, fun h => exactVertical_vertical_edge p q h a b⟩

/-! ### the quadrature loop of `IntegratePlanar.vertical` as written in the source -/

/-- the body of `IntegratePlanar.vertical` (comprehension pipeline over `open_linspace`, product of the three value lists,
`np.inner` with the weights), regenerated from curve.py on every run, IS the model's `verticalN`: for every control polygon,
all exponents and every node count -/
theorem source_vertical_is_model (s : Seg) (a b n : Nat) : Gen.vertical s a b n = verticalN s a b n := by
  unfold Gen.vertical verticalN
  rw [source_open_linspace_is_model, quad_eq_sum]
  simp only [List.map_map]
  exact zip_pipeline_sum (openNodes n) (openWeights n) (fun t => (evalSeg s t).x ^ a) (fun t => (evalSeg s t).y ^ b)
    (fun t => (evalSeg (derivSeg s) t).y)

/-- hence the exactness theorems are about the SOURCE: the code's ∫ x^a y^b dy over a piece of any degree is the exact integral
whenever (a+b+1)·degree ≤ n + n mod 2 — in particular for every polygon edge with the default node count, all exponents -/
theorem source_vertical_exact (s : Seg) (hs : 2 ≤ s.length) (a b n : Nat) (h1 : 1 ≤ n)
    (hdeg : (a + b + 1) * (s.length - 1) ≤ n + n % 2) : Gen.vertical s a b n = exactVertical s a b := by
  rw [source_vertical_is_model]; exact verticalN_eq_exact s hs a b n hdeg

theorem source_vertical_polygon_exact (p q : Pt) (a b : Nat) :
    Gen.vertical [p, q] a b (Gen.verticalNodes a b 1) = exactVertical [p, q] a b := by
  rw [source_vertical_is_model]
  exact (code_vertical_is_model_vertical [p, q] a b).trans (vertical_eq_exact_line _ rfl a b)

/-! non-vacuity -/
example : Gen.vertical [⟨0, 0⟩, ⟨2, 1⟩, ⟨3, 4⟩] 1 0 6 = exactVertical [⟨0, 0⟩, ⟨2, 1⟩, ⟨3, 4⟩] 1 0 := by decide +kernel
example : vertical [⟨0, 0⟩, ⟨3, 5⟩] 7 9 = exactVertical [⟨0, 0⟩, ⟨3, 5⟩] 7 9 :=
  vertical_eq_exact_line _ rfl 7 9
example : Gen.openLinspace 3 = [1/6, 1/2, 5/6] := by decide +kernel
example : Gen.closedLinspace 3 = [0, 1/2, 1] := by decide +kernel

end ShapeVerif.C04
