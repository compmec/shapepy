/-
C05 — inclusion–exclusion of measures.
Informal property: for shapes A, B and every polynomial weight x^a y^b the integrals
(`IntegrateShape.polynomial`, exact version `Shape.moment`) satisfy
    m(A | B) + m(A & B) = m(A) + m(B),   m(A - B) + m(A & B) = m(A),
    m(A ^ B) = m(A | B) - m(A & B),      m(~A) = - m(A).

What is proved here.  A moment is a boundary integral (Green): it is a SUM over the boundary pieces.
Hence it depends only on the multiset of pieces, pieces traversed once in each direction cancelling
(`shapeExactMoment_cancel`, Proofs/Reparam.lean).  So whenever the pieces of two results are a rearrangement of the
operands' pieces and of pieces `X` that occur once in each direction — the conservation certificate that the harness
checks on the REAL results of `A | B` and `A & B` (after the operands have been refined at their intersection
points, which C15 shows changes no moment) — the identity m(R1) + m(R2) = m(A) + m(B) holds; for `A - B`, `A & B` the
pieces of B inside A are such `X`; inverting every curve negates every moment; the three identities give the
symmetric difference.
Not proved here: that the real operators produce results satisfying the certificate (that the
follow-path algorithm keeps exactly the right pieces) — this is checked by the harness on every test
input, and the pointwise set identities are C01.
-/
import ShapeVerif.Proofs.Reparam

namespace ShapeVerif.C05
open ShapeVerif

/-! ### a moment is a sum over the boundary pieces -/

/-- the moment only depends on the list of boundary segments, whatever their grouping into curves -/
theorem moment_eq_sum_segments (js : List Jordan) (a b : Nat) :
    shapeExactMoment js a b
      = ((js.flatten.map fun s => exactVertical s (a + 1) b).sum) / ((a + 1 : Nat) : Rat) :=
  shapeExactMoment_eq js a b

/-! ### pieces traversed once in each direction cancel -/

theorem cancel_pair (s : Seg) (hs : DegLe3 s) (a b : Nat) (h : a + b ≤ 3) :
    exactVertical s (a + 1) b + exactVertical s.reverse (a + 1) b = 0 := exactVertical_add_reverse s (a + 1) b

/-! ### m(A | B) + m(A & B) = m(A) + m(B) and m(A - B) + m(A & B) = m(A) from the conservation certificates -/

/-- m(A | B) + m(A & B) = m(A) + m(B) when the pieces of the results are those of the operands and pieces `X` that
occur once in each direction -/
theorem incl_excl_cancel (A B R1 R2 : Shape) (X : List Seg)
    (cert : (R1.jordans.flatten ++ R2.jordans.flatten).Perm
      (A.jordans.flatten ++ B.jordans.flatten ++ X ++ X.map List.reverse))
    (a b : Nat) : R1.moment a b + R2.moment a b = A.moment a b + B.moment a b := by
  rw [Shape.moment_add, Shape.moment_add]
  apply shapeExactMoment_cancel _ _ X _ a b
  simpa using cert

theorem incl_excl_of_cert (A B R1 R2 : Shape)
    (cert : (R1.jordans.flatten ++ R2.jordans.flatten).Perm (A.jordans.flatten ++ B.jordans.flatten))
    (a b : Nat) : R1.moment a b + R2.moment a b = A.moment a b + B.moment a b :=
  incl_excl_cancel A B R1 R2 [] (by simpa using cert) a b

theorem incl_excl_of_cert_cancel (A B R1 R2 : Shape) (X : List Seg) (hX : ∀ s ∈ X, DegLe3 s)
    (cert : (R1.jordans.flatten ++ R2.jordans.flatten).Perm
      (A.jordans.flatten ++ B.jordans.flatten ++ X ++ X.map List.reverse))
    (a b : Nat) (h : a + b ≤ 3) : R1.moment a b + R2.moment a b = A.moment a b + B.moment a b :=
  incl_excl_cancel A B R1 R2 X cert a b

/-- m(A - B) + m(A & B) = m(A): the pieces of B inside A bound `A - B` in one direction and `A & B`
in the other -/
theorem diff_of_cert (A R1 R2 : Shape) (X : List Seg)
    (cert : (R1.jordans.flatten ++ R2.jordans.flatten).Perm (A.jordans.flatten ++ X ++ X.map List.reverse))
    (a b : Nat) : R1.moment a b + R2.moment a b = A.moment a b := by
  rw [Shape.moment_add]
  apply shapeExactMoment_cancel _ _ X _ a b
  simpa using cert

/-! ### complement -/

theorem shape_moment_compl (A : Shape) (hA : ∀ j ∈ A.jordans, ∀ s ∈ j, DegLe3 s) (a b : Nat)
    (h : a + b ≤ 3) : shapeExactMoment A.invertCurves a b = - A.moment a b :=
  shapeExactMoment_invert A.jordans a b

/-! ### symmetric difference -/

/-- the three certificates together give m(A-B) + m(B-A) = m(A|B) - m(A&B) -/
theorem xor_of_certs (A B U I D D' : Shape) (X Y : List Seg) (hX : ∀ s ∈ X, DegLe3 s)
    (hY : ∀ s ∈ Y, DegLe3 s)
    (cU : (U.jordans.flatten ++ I.jordans.flatten).Perm (A.jordans.flatten ++ B.jordans.flatten))
    (cD : (D.jordans.flatten ++ I.jordans.flatten).Perm (A.jordans.flatten ++ X ++ X.map List.reverse))
    (cD' : (D'.jordans.flatten ++ I.jordans.flatten).Perm (B.jordans.flatten ++ Y ++ Y.map List.reverse))
    (a b : Nat) (h : a + b ≤ 3) :
    D.moment a b + D'.moment a b = U.moment a b - I.moment a b := by
  have h1 := incl_excl_of_cert A B U I cU a b
  have h2 := diff_of_cert A D I X cD a b
  have h3 := diff_of_cert B D' I Y cD' a b
  linarith

/-! ### non-vacuity: two overlapping rectangles, already refined at their crossing points -/

/-- A = [0,2]×[0,2] refined at (2,1) and (1,2) -/
def A : Shape := .simple (Jordan.fromVertices [⟨0,0⟩, ⟨2,0⟩, ⟨2,1⟩, ⟨2,2⟩, ⟨1,2⟩, ⟨0,2⟩])
/-- B = [1,3]×[1,3] refined at (2,1) and (1,2) -/
def B : Shape := .simple (Jordan.fromVertices [⟨1,1⟩, ⟨2,1⟩, ⟨3,1⟩, ⟨3,3⟩, ⟨1,3⟩, ⟨1,2⟩])
def AorB : Shape :=
  .simple (Jordan.fromVertices [⟨0,0⟩, ⟨2,0⟩, ⟨2,1⟩, ⟨3,1⟩, ⟨3,3⟩, ⟨1,3⟩, ⟨1,2⟩, ⟨0,2⟩])
def AandB : Shape := .simple (Jordan.fromVertices [⟨1,1⟩, ⟨2,1⟩, ⟨2,2⟩, ⟨1,2⟩])
def AsubB : Shape := .simple (Jordan.fromVertices [⟨0,0⟩, ⟨2,0⟩, ⟨2,1⟩, ⟨1,1⟩, ⟨1,2⟩, ⟨0,2⟩])

/-- the certificate of `incl_excl_of_cert` holds for them (the two sides have equal piece counts) -/
example : (AorB.jordans.flatten ++ AandB.jordans.flatten).Perm (A.jordans.flatten ++ B.jordans.flatten) :=
  List.isPerm_iff.mp (by decide +kernel)

example : AorB.moment 0 0 + AandB.moment 0 0 = A.moment 0 0 + B.moment 0 0 ∧ AorB.moment 0 0 = 7
    ∧ AandB.moment 0 0 = 1 := by decide +kernel

/-- the certificate of `diff_of_cert`: the pieces of B inside A, (1,2)→(1,1)→(2,1), bound `A - B`
in the opposite direction to `A & B` -/
example : (AsubB.jordans.flatten ++ AandB.jordans.flatten).Perm
    (A.jordans.flatten ++ [[⟨1,2⟩, ⟨1,1⟩], [⟨1,1⟩, ⟨2,1⟩]]
      ++ List.map List.reverse [[⟨1,2⟩, ⟨1,1⟩], [⟨1,1⟩, ⟨2,1⟩]]) :=
  List.isPerm_iff.mp (by decide +kernel)

example : AsubB.moment 1 1 + AandB.moment 1 1 = A.moment 1 1 ∧ A.moment 1 1 = 4 := by decide +kernel

end ShapeVerif.C05
