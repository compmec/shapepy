/-
C05b — the measure identities of C05 stated without bounds: EVERY degree of the boundary pieces, ALL exponents.

C05.lean states the certificate theorems (inclusion–exclusion, difference, complement) for pieces of degree ≤ 3 and
moments of order a + b ≤ 3.  Those bounds are not used by the proofs: reversal negates every boundary integral of
every piece (`exactVertical_reverse`, Proofs/Reparam.lean: the reversed piece is the piece under t ↦ 1 − t), so the
same theorems hold for all control polygons and all a, b.
-/
import ShapeVerif.Props.C05

namespace ShapeVerif.C05
open ShapeVerif

/-- a piece traversed once in each direction contributes nothing, to every moment -/
theorem cancel_pair_all (s : Seg) (hs : 2 ≤ s.length) (a b : Nat) :
    exactVertical s a b + exactVertical s.reverse a b = 0 := exactVertical_add_reverse s a b

/-- m(A | B) + m(A & B) = m(A) + m(B) for EVERY moment, whenever the boundary pieces of the two results are those of the
operands plus pieces traversed once in each direction -/
theorem incl_excl_of_cert_cancel_all (A B R1 R2 : Shape) (X : List Seg) (hX : ∀ s ∈ X, 2 ≤ s.length)
    (cert : (R1.jordans.flatten ++ R2.jordans.flatten).Perm
      (A.jordans.flatten ++ B.jordans.flatten ++ X ++ X.map List.reverse)) (a b : Nat) :
    R1.moment a b + R2.moment a b = A.moment a b + B.moment a b :=
  incl_excl_cancel A B R1 R2 X cert a b

/-- m(A − B) + m(A & B) = m(A) for EVERY moment -/
theorem diff_of_cert_all (A R1 R2 : Shape) (X : List Seg) (hX : ∀ s ∈ X, 2 ≤ s.length)
    (cert : (R1.jordans.flatten ++ R2.jordans.flatten).Perm (A.jordans.flatten ++ X ++ X.map List.reverse))
    (a b : Nat) : R1.moment a b + R2.moment a b = A.moment a b :=
  diff_of_cert A R1 R2 X cert a b

/-- m(~A) = −m(A): inverting every boundary curve negates EVERY moment, for boundary pieces of every degree -/
theorem shape_moment_compl_all (A : Shape) (hA : ∀ j ∈ A.jordans, ∀ s ∈ j, 2 ≤ s.length) (a b : Nat) :
    shapeExactMoment A.invertCurves a b = - A.moment a b := shapeExactMoment_invert A.jordans a b

/-- in particular the signed area of an inverted curve of any degree -/
theorem area_invert_every_degree (j : Jordan) (hj : ∀ s ∈ j, 2 ≤ s.length) : Jordan.area j.invert = - Jordan.area j :=
  Jordan.area_invert j

/-! non-vacuity: a closed curve with a quartic piece and its inverse -/
example : Jordan.area (Jordan.invert [[⟨0,0⟩, ⟨1,-1⟩, ⟨2,2⟩, ⟨3,-1⟩, ⟨4,0⟩], [⟨4,0⟩, ⟨2,5⟩, ⟨0,0⟩]])
    = - Jordan.area [[⟨0,0⟩, ⟨1,-1⟩, ⟨2,2⟩, ⟨3,-1⟩, ⟨4,0⟩], [⟨4,0⟩, ⟨2,5⟩, ⟨0,0⟩]] :=
  Jordan.area_invert _

end ShapeVerif.C05
