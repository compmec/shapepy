/-
C06 — results are canonical and well-formed; Empty and Whole are singletons with the right algebra.

FULL STATEMENT (informal, over the real code): every operator result is either the EmptyShape / WholeShape
singleton or a well-formed SimpleShape / ConnectedShape / DisjointShape (simple closed curves, one outer
boundary per connected component, holes inside the outer boundary and outside each other, ≥ 2 curves in a
ConnectedShape, ≥ 2 pairwise disjoint components in a DisjointShape); `S | ~S` is Whole, `S & ~S`, `S - S`,
`S ^ S` are Empty, `S ^ ~S` is Whole; the complement maps Empty ↔ Whole, Simple ↦ Simple,
Connected ↦ Disjoint-or-Simple…

What is PROVED here (all quantifiers unbounded):
 1. `singleton_results_table` — on the tables REGENERATED from shape.py: the fall-through of
    `__or__`/`__and__` with no curve left returns Whole / Empty; `~Empty = Whole`, `~Whole = Empty`; the
    short-cut returns `X | Whole = Whole`, `X & Empty = Empty`; and every operator of `EmptyShape` /
    `WholeShape` has the constant (or pass-through) truth value it must have, at every point.
 2. `singleton_laws` — through the translated method bodies, at every point (membership `s` of S there):
    S|~S ↦ true, S&~S ↦ false, S−S ↦ false, S^S ↦ false, S^~S ↦ true.  Hence by the certified checkers
    `empty_certified` / `whole_certified` (user-level restatements of `regionEmpty_sound`,
    `regionWhole_sound`) a result object of these expressions that is NOT the singleton is detected:
    its region must be empty / everything off its own edges.
 3. the MEANING of the executable well-formedness predicate `wfProblems` used by the harness on every
    result: `wf_simple`, `wf_connected`, `wf_disjoint`, `wf_disjoint_components_disjoint` (no point off
    the edges lies in two components), and of `simpleJ`: `simple_curve_facts`.

NOT proved / not modelled: that the code's results ARE well-formed for all inputs (checked per executed
result by the harness with `wfProblems`): of the recombination (FollowPath / `ShapeFromJordans` /
`DivideConnecteds`) only the control structure is modelled, with oracles for its geometric steps
(Model/Follow.lean, C01b), so which curves a result has is not a Lean theorem; how `~shape` is built for
Simple and Connected operands is C06b; object identity of the singletons (`is`) is a harness check;
idempotence of `canonShape`.
-/
import ShapeVerif.Proofs.Slab
import ShapeVerif.Proofs.Algebra
import ShapeVerif.Gen.Dispatch

namespace ShapeVerif.C06
open ShapeVerif ShapeVerif.Alg

/-- pointwise value of operator `name` of a singleton class (`s` = membership of self: false for Empty,
true for Whole), through the translated bodies (fuel 16: see C01) -/
def denOp (ops : List (String × Term)) (name : String) (s o : Bool) : Option Bool :=
  (ops.lookup name).bind fun t => Term.den Gen.baseMethods 16 t s o

/-- (1) the singleton table -/
theorem singleton_results_table :
    (Gen.definedOr.onEmpty = .whole ∧ Gen.definedAnd.onEmpty = .empty) ∧
    (Gen.emptyOps.lookup "invert" = some .whole ∧ Gen.wholeOps.lookup "invert" = some .empty) ∧
    (Gen.definedOr.guards.lookup (.isWhole .other) = some .whole ∧
     Gen.definedAnd.guards.lookup (.isEmpty .other) = some .empty) ∧
    (∀ o : Bool,
      denOp Gen.emptyOps "or" false o = some o ∧ denOp Gen.emptyOps "and" false o = some false ∧
      denOp Gen.emptyOps "sub" false o = some false ∧ denOp Gen.emptyOps "xor" false o = some o ∧
      denOp Gen.emptyOps "invert" false o = some true ∧ denOp Gen.emptyOps "neg" false o = some true ∧
      denOp Gen.emptyOps "add" false o = some o ∧ denOp Gen.emptyOps "mul" false o = some false) ∧
    (∀ o : Bool,
      denOp Gen.wholeOps "or" true o = some true ∧ denOp Gen.wholeOps "and" true o = some o ∧
      denOp Gen.wholeOps "sub" true o = some (!o) ∧ denOp Gen.wholeOps "xor" true o = some (!o) ∧
      denOp Gen.wholeOps "invert" true o = some false ∧ denOp Gen.wholeOps "neg" true o = some false ∧
      denOp Gen.wholeOps "add" true o = some true ∧ denOp Gen.wholeOps "mul" true o = some o) := by
  decide +kernel

/-- `Whole − Whole`, `Whole ^ Whole`, `Empty ^ Empty`, `Empty | Empty` are nowhere;
`Whole − Empty`, `Whole ^ Empty`, `Empty ^ Whole`, `Empty | Whole` are everywhere -/
theorem singleton_pairs :
    denOp Gen.wholeOps "sub" true true = some false ∧ denOp Gen.wholeOps "xor" true true = some false ∧
    denOp Gen.emptyOps "xor" false false = some false ∧ denOp Gen.emptyOps "or" false false = some false ∧
    denOp Gen.wholeOps "sub" true false = some true ∧ denOp Gen.wholeOps "xor" true false = some true ∧
    denOp Gen.emptyOps "xor" false true = some true ∧ denOp Gen.emptyOps "or" false true = some true := by
  -- rows of the table, at `o = true` and at `o = false`
  obtain ⟨-, -, -, e, w⟩ := singleton_results_table
  obtain ⟨e_or, -, -, e_xor, -⟩ := e false
  obtain ⟨e_or', -, -, e_xor', -⟩ := e true
  obtain ⟨-, -, w_sub, w_xor, -⟩ := w true
  obtain ⟨-, -, w_sub', w_xor', -⟩ := w false
  exact ⟨w_sub, w_xor, e_xor, e_or, w_sub', w_xor', e_xor', e_or'⟩

/-- (2) the singleton laws, at every point: `s` is the membership of S there (`other := S` for the binary ones) -/
theorem singleton_laws : ∀ s : Bool,
    Term.den Gen.baseMethods 16 (.or .self (.inv .self)) s s = some true ∧
    Term.den Gen.baseMethods 16 (.and .self (.inv .self)) s s = some false ∧
    Term.den Gen.baseMethods 16 (.sub .self .other) s s = some false ∧
    Term.den Gen.baseMethods 16 (.sub .self .self) s s = some false ∧
    Term.den Gen.baseMethods 16 (.xor .self .other) s s = some false ∧
    Term.den Gen.baseMethods 16 (.xor .self .self) s s = some false ∧
    Term.den Gen.baseMethods 16 (.xor .self (.inv .other)) s s = some true ∧
    Term.den Gen.baseMethods 16 (.inv (.inv .self)) s s = some s := by decide +kernel

/-- an object that the checker accepts as "empty" contains no point off its own edges -/
theorem empty_certified (A : Shape) (h : regionEmpty A = true) (r : Pt)
    (hx : r.x ∉ criticalXs A.edges) (hoff : ∀ e ∈ A.edges, e.onEdge r = false) : A.memW r = false :=
  regionEmpty_sound A h r hx (OffLines.of_not_onEdge _ r hoff)

/-- an object that the checker accepts as "whole" contains every point off its own edges -/
theorem whole_certified (A : Shape) (h : regionWhole A = true) (r : Pt)
    (hx : r.x ∉ criticalXs A.edges) (hoff : ∀ e ∈ A.edges, e.onEdge r = false) : A.memW r = true :=
  regionWhole_sound A h r hx (OffLines.of_not_onEdge _ r hoff)

/-- the singletons themselves are accepted, and have no curve -/
theorem singletons_canonical :
    regionEmpty .empty = true ∧ regionWhole .whole = true ∧ regionEmpty .whole = false ∧
    regionWhole .empty = false ∧ Shape.empty.jordans = [] ∧ Shape.whole.jordans = [] ∧
    wfProblems .empty = [] ∧ wfProblems .whole = [] ∧
    canonShape .empty = .empty ∧ canonShape .whole = .whole := by decide +kernel

/-! ### (3) what `wfProblems s = []` means -/

/-- a simple closed polygon: straight segments, at least 3 of them, consecutive edges chained
(cyclically), no zero-length edge, non-adjacent edges without common point -/
theorem simple_curve_facts (j : Jordan) (h : simpleJ j = true) :
    j.isPolygon = true ∧ 3 ≤ j.length ∧
    (∀ ef ∈ j.edges.zip (j.edges.tail ++ j.edges.take 1), ef.1.q = ef.2.p ∧ ef.1.p ≠ ef.1.q) ∧
    (∀ (i k : Nat) (e f : Edge), (e, i) ∈ j.edges.zipIdx → (f, k) ∈ j.edges.zipIdx →
        i + 1 < k → ¬ (i = 0 ∧ k = j.edges.length - 1) → edgesMeet e f = false) := by
  simp only [simpleJ, Bool.and_eq_true, decide_eq_true_eq] at h
  obtain ⟨⟨⟨h1, h2⟩, h3⟩, h4⟩ := h
  refine ⟨h1, by simpa [Jordan.edges] using h2, ?_, ?_⟩
  · intro ef hef
    simpa using List.all_eq_true.mp h3 ef hef
  · intro i k e f he hf hik hwrap
    have h5 := List.all_eq_true.mp (List.all_eq_true.mp h4 (e, i) he) (f, k) hf
    have hki : ¬ k ≤ i := by omega
    have hadj : ¬ (k = i + 1 ∨ (i = 0 ∧ k = j.edges.length - 1)) := by
      rintro (hh | hh)
      · omega
      · exact hwrap hh
    simpa [hki, hadj] using h5

theorem wf_simple (j : Jordan) (h : wfProblems (.simple j) = []) : curveOK j = true :=
  (report_nil_iff _).mp h

/-- ConnectedShape: ≥ 2 curves, all accepted boundary curves (`curveOK`: simple, or touching itself at isolated points without crossing), at most one counter-clockwise (outer) curve, every hole has
no piece outside or on the outer curve, distinct holes have no piece inside or on each other -/
theorem wf_connected (js : List Jordan) (h : wfProblems (.connected js) = []) :
    2 ≤ js.length ∧ (∀ j ∈ js, curveOK j = true) ∧ (js.filter Jordan.ccw).length ≤ 1 ∧
    (∀ o ∈ js.filter Jordan.ccw, ∀ hl ∈ js.filter (fun j => !j.ccw),
        (curveRel hl o).2.1 = 0 ∧ (curveRel hl o).2.2 = 0) ∧
    (∀ hi ∈ (js.filter (fun j => !j.ccw)).zipIdx, ∀ hk ∈ (js.filter (fun j => !j.ccw)).zipIdx,
        hi.2 ≠ hk.2 → (curveRel hi.1 hk.1).1 = 0 ∧ (curveRel hi.1 hk.1).2.2 = 0) := by
  -- one conjunct per report line: a line is absent iff its condition holds (`report_nil_iff`)
  simp only [wfProblems, wfConnected, List.append_eq_nil_iff, List.flatMap_eq_nil_iff, report_nil_iff, report_nil_iff',
    not_lt, not_not, List.all_eq_true] at h
  obtain ⟨⟨⟨⟨h1, h2⟩, h3⟩, h4⟩, h5⟩ := h
  refine ⟨h1, h2, h3, h4, fun hi hhi hk hhk hne => ?_⟩
  have := h5 hi hhi hk hhk
  rw [if_neg hne] at this
  simpa only [List.append_eq_nil_iff, report_nil_iff', not_not] using this

/-- DisjointShape: ≥ 2 components, accepted as pairwise disjoint, none empty, one-curve components are
simple shapes, the others are well-formed connected shapes -/
theorem wf_disjoint (cs : List (List Jordan)) (h : wfProblems (.disjoint cs) = []) :
    2 ≤ cs.length ∧ componentsDisjoint cs = true ∧ (∀ c ∈ cs, c ≠ []) ∧
    (∀ c ∈ cs, ∀ j, c = [j] → curveOK j = true) ∧
    (∀ c ∈ cs, 2 ≤ c.length → wfProblems (.connected c) = []) := by
  simp only [wfProblems, List.append_eq_nil_iff, List.flatMap_eq_nil_iff, report_nil_iff, report_nil_iff', not_lt] at h
  obtain ⟨⟨h1, h2⟩, h3⟩ := h
  refine ⟨h1, h3, fun c hc hnil => ?_, fun c hc j hj => ?_, fun c hc hlen => ?_⟩
  · have := h2 c hc
    rw [hnil] at this
    cases this
  · have := h2 c hc
    rw [hj] at this
    exact (report_nil_iff _).mp this
  · have := h2 c hc
    match c, hlen, this with
    | a :: b :: t, _, this => exact this

/-- … hence no point off the edges lies in two components (components at two different positions) -/
theorem wf_disjoint_components_disjoint (l1 l2 l3 : List (List Jordan)) (c1 c2 : List Jordan)
    (h : wfProblems (.disjoint (l1 ++ c1 :: l2 ++ c2 :: l3)) = []) (r : Pt)
    (hx : r.x ∉ criticalXs ((l1 ++ c1 :: l2 ++ c2 :: l3).flatten.flatMap Jordan.edges))
    (hoff : ∀ e ∈ (l1 ++ c1 :: l2 ++ c2 :: l3).flatten.flatMap Jordan.edges, e.onEdge r = false) :
    ¬ ((Shape.connected c1).memW r = true ∧ (Shape.connected c2).memW r = true) := by
  rintro ⟨h1, h2⟩
  have hd := (wf_disjoint _ h).2.1
  have hlen := componentsDisjoint_sound _ hd r hx (OffLines.of_not_onEdge _ r hoff)
  change (c1.all fun j => memW j r) = true at h1
  change (c2.all fun j => memW j r) = true at h2
  simp only [List.filter_append, List.filter_cons, h1, h2, if_true, List.length_append, List.length_cons] at hlen
  omega

/-! ### non-vacuity: a ring and a two-component shape are well-formed; defects are reported -/
def outer : Jordan := Jordan.fromVertices [⟨0,0⟩, ⟨4,0⟩, ⟨4,4⟩, ⟨0,4⟩]
def hole : Jordan := Jordan.fromVertices [⟨1,1⟩, ⟨1,2⟩, ⟨2,2⟩, ⟨2,1⟩]
def far : Jordan := Jordan.fromVertices [⟨6,0⟩, ⟨7,0⟩, ⟨7,1⟩, ⟨6,1⟩]
example : wfProblems (.connected [outer, hole]) = [] := by decide +kernel
example : wfProblems (.disjoint [[outer, hole], [far]]) = [] := by decide +kernel
example : wfProblems (.simple outer) = [] ∧ wfProblems (.simple [[⟨0,0⟩, ⟨1,1⟩], [⟨1,1⟩, ⟨0,0⟩]]) ≠ [] := by
  decide +kernel
example : wfProblems (.disjoint [[outer], [hole.invert]]) = ["components-overlap"] := by decide +kernel
example : wfProblems (.connected [outer, far.invert]) = ["hole-outside-outer"] := by decide +kernel

end ShapeVerif.C06
