/-
C06b — `~shape` as it is BUILT in the source (regenerated table `Gen.invertRule`): Simple ↦ the simple shape of the reversed
curve, Connected ↦ `DisjointShape` of the complements of its members (De Morgan), Disjoint ↦ all curves reversed and regrouped.

PROVED for the regenerated table, for all shapes, at every point where reversing a curve complements its region (C03b
`memW_invert_of_jordanAt`: proved from `wind_invert` / `area_invert` under the winding-range hypothesis of C02):
 * `invert_simple_is_complement`, `invert_connected_is_complement` — the construction denotes exactly the complement region, so the
   kind table of the documentation (`~Simple` is Simple, `~Connected` is Disjoint) comes with the right REGION, not only the right kind;
 * `invert_involutive_simple` — applying the construction twice to a simple shape gives back the shape (the curve is reversed twice: `invert_invert`);
 * `invert_connected_members` — the members of `~Connected` are exactly the reversed member curves, one component each
   (no curve is lost or duplicated by the complement).
For Disjoint operands the regrouping (`ShapeFromJordans`) is not constructed in the model; a given result is judged by the verified checker
`regionCompl` (`regionCompl_sound`, Proofs/Slab.lean).

Second half: what `curveOK` accepts as a boundary curve (`curve_ok_cases`): a simple closed polygon, or one that touches itself at isolated
points without crossing (the boundary of `A ^ B` where the boundaries of A and B cross).  `weakly_simple_facts`, `weakly_simple_wind_range`:
such a curve has, at every generic point, the winding range of a simple closed curve — the hypothesis of C02 / C03b, here checked per curve
(`windRangeOK`) and proved from `slabCheck_sound`.
-/
import ShapeVerif.Props.C03b
import ShapeVerif.Proofs.Slab

namespace ShapeVerif.C06
open ShapeVerif ShapeVerif.C03

/-- the regenerated rules -/
theorem invert_table :
    Gen.invertRule .simple = .simpleOfInvertedCurve ∧ Gen.invertRule .connected = .disjointOfInvertedSubs ∧
    Gen.invertRule .disjoint = .regroupInvertedCurves := ⟨rfl, rfl, rfl⟩

/-- `~Simple`: the complement region -/
theorem invert_simple_is_complement (reg : Jordan → Bool) (j : Jordan) (hinv : reg j.invert = !reg j) :
    (Shape.invertBy Gen.invertRule (.simple j)).map (memAt reg) = some (!memAt reg (.simple j)) := by
  simp [Shape.invertBy, Gen.invertRule, memAt, hinv]

/-- `~Connected` = union of the complements of the members = complement of the intersection (De Morgan), pointwise -/
theorem invert_connected_is_complement (reg : Jordan → Bool) (js : List Jordan) (hinv : ∀ j ∈ js, reg j.invert = !reg j) :
    (Shape.invertBy Gen.invertRule (.connected js)).map (memAt reg) = some (!memAt reg (.connected js)) := by
  simp only [Shape.invertBy, Gen.invertRule, Option.map_some, memAt, Option.some.injEq, List.any_map, List.not_all_eq_any_not]
  exact any_congr_mem fun j hj => by simp [hinv j hj]

/-- Empty and Whole swap -/
theorem invert_singletons : Shape.invertBy Gen.invertRule .empty = some .whole ∧ Shape.invertBy Gen.invertRule .whole = some .empty :=
  ⟨rfl, rfl⟩

/-- the members of `~Connected` are the reversed member curves, one component each -/
theorem invert_connected_members (js : List Jordan) :
    Shape.invertBy Gen.invertRule (.connected js) = some (.disjoint (js.map fun j => [j.invert])) := rfl

/-- `~~Simple` is the simple shape of the same curve -/
theorem invert_involutive_simple (j : Jordan) :
    (Shape.invertBy Gen.invertRule (.simple j)).bind (Shape.invertBy Gen.invertRule) = some (.simple j) := by
  simp [Shape.invertBy, Gen.invertRule, Alg.invert_invert]

/-- with the model's winding-number regions: `~Connected` is the complement at every point where the member curves have
the winding range of simple closed curves -/
theorem invert_connected_region (js : List Jordan) (r : Pt) (h : ∀ j ∈ js, JordanAt j r) :
    (Shape.invertBy Gen.invertRule (.connected js)).map (fun S => S.memW r) = some (!(Shape.connected js).memW r) :=
  -- `memW` is `memAt` of the per-curve regions by definition (`memW_eq_memAt`)
  invert_connected_is_complement (fun j => ShapeVerif.memW j r) js fun j hj => memW_invert_of_jordanAt j r (h j hj)

/-! ### boundary curves that touch themselves: what `curveOK` accepts -/

/-- an accepted boundary curve is a simple closed polygon, or a weakly simple one -/
theorem curve_ok_cases (j : Jordan) (h : curveOK j = true) : simpleJ j = true ∨ weaklySimpleJ j = true := by
  unfold curveOK at h
  simpa [Bool.or_eq_true] using h

/-- what "weakly simple" means: straight pieces, at least three, chained cyclically, none of zero length, no two distinct edges overlap along
a piece, and — at EVERY point off the edges outside finitely many vertical lines — the crossing number is 0 or the orientation sign:
the winding range of a simple closed curve.  A curve that crosses itself has a lobe of the opposite sign or a doubly covered region and is
rejected; a curve that only touches itself at isolated points (the boundary of `A ^ B` where the boundaries of A and B cross) is accepted. -/
theorem weakly_simple_facts (j : Jordan) (h : weaklySimpleJ j = true) :
    j.isPolygon = true ∧ 3 ≤ j.edges.length ∧
    (∀ ef ∈ j.edges.zip (j.edges.tail ++ j.edges.take 1), ef.1.q = ef.2.p ∧ ef.1.p ≠ ef.1.q) ∧
    (∀ (i k : Nat) (e f : Edge), (e, i) ∈ j.edges.zipIdx → (f, k) ∈ j.edges.zipIdx → i < k → edgesOverlap e f = false) ∧
    (∀ r : Pt, r.x ∉ criticalXs j.edges → OffLines j.edges r →
        wind j.edges r = 0 ∨ wind j.edges r = (if j.ccw then 1 else -1)) := by
  simp only [weaklySimpleJ, Bool.and_eq_true, decide_eq_true_eq] at h
  obtain ⟨⟨⟨⟨h1, h2⟩, h3⟩, h4⟩, h5⟩ := h
  refine ⟨h1, h2, ?_, ?_, ?_⟩
  · intro ef hef
    have := List.all_eq_true.mp h3 ef hef
    simpa [Bool.and_eq_true] using this
  · intro i k e f he hf hik
    have := List.all_eq_true.mp (List.all_eq_true.mp h4 (e, i) he) (f, k) hf
    have hki : ¬ k ≤ i := by omega
    simpa [hki] using this
  · intro r hx hoff
    unfold windRangeOK at h5
    have := slabCheck_sound j.edges _ (fun r r' hrr => by
      simp only [wind_congr j.edges r r' hrr]) h5 r hx hoff
    simpa [Bool.or_eq_true] using this

/-- in particular a weakly simple result curve satisfies, at every generic point, the hypothesis under which C02 / C03b identify its
winding-number region with "inside" — checked and proved per result, not assumed -/
theorem weakly_simple_wind_range (j : Jordan) (h : weaklySimpleJ j = true) (r : Pt)
    (hx : r.x ∉ criticalXs j.edges) (hoff : OffLines j.edges r) :
    wind j.edges r = 0 ∨ wind j.edges r = (if j.ccw then 1 else -1) := (weakly_simple_facts j h).2.2.2.2 r hx hoff

/-! a bow-tie that CROSSES itself is rejected, two triangles joined at a vertex (touching) are accepted -/
example : curveOK (Jordan.fromVertices [⟨0,0⟩, ⟨2,2⟩, ⟨2,0⟩, ⟨0,2⟩]) = false := by decide +kernel
example : simpleJ (Jordan.fromVertices [⟨0,0⟩, ⟨2,0⟩, ⟨1,1⟩, ⟨2,2⟩, ⟨0,2⟩, ⟨1,1⟩]) = false ∧
    curveOK (Jordan.fromVertices [⟨0,0⟩, ⟨2,0⟩, ⟨1,1⟩, ⟨2,2⟩, ⟨0,2⟩, ⟨1,1⟩]) = true := by decide +kernel
-- a curve that retraces an edge (a spike) is rejected
example : curveOK (Jordan.fromVertices [⟨0,0⟩, ⟨2,0⟩, ⟨2,2⟩, ⟨3,2⟩, ⟨2,2⟩, ⟨0,2⟩]) = false := by decide +kernel

/-! non-vacuity: the ring (0,0)-(4,4) minus (1,1)-(2,2); its complement as built contains the hole's centre and a far point, not a ring point -/
example : (Shape.invertBy Gen.invertRule ring).map (fun S => (S.memW ⟨3/2, 3/2⟩, S.memW ⟨9, 9⟩, S.memW ⟨3, 3⟩)) = some (true, true, false) := by
  decide +kernel

end ShapeVerif.C06
