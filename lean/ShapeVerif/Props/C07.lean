/-
C07 — `==` is equality of regions and an equivalence relation.

FULL STATEMENT (informal, over the real code): for all shapes A, B: `A == B` is True iff A and B are the
same point set; it is reflexive, symmetric and transitive, always returns a `bool`, and does not depend on
the representation: the start vertex of a closed curve, removable (collinear) vertices, the order of the
curves / components, int / Fraction / float coordinates of the same value.

What is PROVED here (all quantifiers unbounded unless said otherwise):
 1. `regionEq_refl` — the verified region-equality checker accepts `A, A` for EVERY shape value;
    `regionEq_certified`: if it accepts `A, B`, the regions agree at every point off the edges whose
    abscissa is not critical; `regionEq_rejection_has_witness`: a rejection exhibits a separating sample.
 2. `RegEq A B := ∀ r, A.memW r = B.memW r` is an equivalence (`regEq_refl/symm/trans`), true equality is
    always accepted (`regionEq_complete`), hence the checker is symmetric on truly equal regions.
 3. `eqJ`, the model of `jordan == jordan` on polygons (equality of the cleaned vertex cycle started at
    its lexicographically least vertex), is reflexive, symmetric (`eqJ_comm`: as a Bool, for all curves)
    and transitive.  It is TOTAL and Bool-valued by construction (a Lean function `Jordan → Jordan → Bool`):
    "never returns a non-bool / never raises" is a typing fact of the model, and a harness check on the code.
 4. start-vertex independence: `canonCycle_rotate` — for EVERY duplicate-free vertex list and every
    rotation, the canonical cycle is the same (uniqueness of the least vertex under `Pt.lt`);
    `eqJ_rotate_partial` — hence `eqJ (rotated polygon) (polygon) = true` for every duplicate-free
    vertex list WITHOUT removable vertex (`cleanStep vs = none`) and every rotation.
    `_partial` because: (a) polygons only; (b) it asks for "nothing removable" (`cleanStep_rotate` shows that this is
    rotation invariant); lists WITH removable vertices are C07b (`eqJ_rotate_all`: the cleaning loop is confluent under
    rotation); (c) vertex lists with repeated points (not simple anyway) are excluded.
 5. coordinate-representation independence holds BY TYPING in the model: all coordinates are `Rat`, so
    `1`, `Fraction(1)`, `1.0` are the same value before any theorem applies; that the code converts
    them identically is C13 / C13c (`limit_denominator`) and a harness check.

NOT proved: that the code's `==` (area pre-test with 1e-6, greedy matching of sub-shapes, `Point2D.__eq__`
with 1e-9) coincides with `RegEq` — harness check against `regionEq` per executed call; invariance under
the order of curves/components is C19 (`connected_perm_invariant`, `disjoint_perm_invariant`).
-/
import ShapeVerif.Proofs.Slab
import ShapeVerif.Proofs.Cycle

namespace ShapeVerif.C07
open ShapeVerif ShapeVerif.Alg

/-- equality of regions -/
def RegEq (A B : Shape) : Prop := ∀ r, A.memW r = B.memW r

/-! ### (1), (2) regions -/
theorem regionEq_refl (A : Shape) : regionEq A A = true := slabCheck_of_forall _ fun _ => beq_self_eq_true _

theorem regEq_refl (A : Shape) : RegEq A A := fun _ => rfl
theorem regEq_symm {A B : Shape} (h : RegEq A B) : RegEq B A := fun r => (h r).symm
theorem regEq_trans {A B C : Shape} (h1 : RegEq A B) (h2 : RegEq B C) : RegEq A C :=
  fun r => (h1 r).trans (h2 r)
theorem regEq_equivalence : Equivalence RegEq := ⟨regEq_refl, regEq_symm, regEq_trans⟩

theorem regionEq_certified (A B : Shape) (h : regionEq A B = true) (r : Pt)
    (hx : r.x ∉ criticalXs (A.edges ++ B.edges)) (hoff : ∀ e ∈ A.edges ++ B.edges, e.onEdge r = false) :
    A.memW r = B.memW r :=
  regionEq_sound A B h r hx (OffLines.of_not_onEdge _ r hoff)

theorem regionEq_rejection_has_witness (A B : Shape) (h : regionEq A B = false) :
    ∃ s ∈ slabSamples (A.edges ++ B.edges), A.memW s ≠ B.memW s := by
  obtain ⟨s, hs, hp⟩ := exists_sample_of_slabCheck_eq_false _ _ h
  exact ⟨s, hs, by simpa using hp⟩

/-- truly equal regions are always accepted -/
theorem regionEq_complete (A B : Shape) (h : RegEq A B) : regionEq A B = true :=
  slabCheck_of_forall _ fun r => beq_iff_eq.mpr (h r)

/-- … in both argument orders -/
theorem regionEq_symm_of_regEq (A B : Shape) (h : RegEq A B) : regionEq A B = true ∧ regionEq B A = true :=
  ⟨regionEq_complete A B h, regionEq_complete B A (regEq_symm h)⟩

/-- a region-equal pair is region-equal to the same third shapes: the certified relation is transitive
at every admissible point -/
theorem regionEq_trans_certified (A B C : Shape) (h1 : regionEq A B = true) (h2 : regionEq B C = true) (r : Pt)
    (hx1 : r.x ∉ criticalXs (A.edges ++ B.edges)) (hx2 : r.x ∉ criticalXs (B.edges ++ C.edges))
    (hoff : ∀ e ∈ A.edges ++ B.edges ++ C.edges, e.onEdge r = false) : A.memW r = C.memW r :=
  (regionEq_certified A B h1 r hx1 (fun e he => hoff e (List.mem_append_left _ he))).trans
    (regionEq_certified B C h2 r hx2 (fun e he => hoff e (by
      rw [List.append_assoc]
      exact List.mem_append_right _ he)))

/-! ### (3) `jordan == jordan` -/
/-- `eqJ` is the kernel of the canonical form -/
theorem eqJ_iff_canon (a b : Jordan) : eqJ a b = true ↔ canonJ a = canonJ b := ShapeVerif.eqJ_iff a b
theorem eqJ_refl (a : Jordan) : eqJ a a = true := (eqJ_iff a a).mpr rfl
theorem eqJ_symm (a b : Jordan) (h : eqJ a b = true) : eqJ b a = true :=
  (eqJ_iff b a).mpr ((eqJ_iff a b).mp h).symm
theorem eqJ_comm (a b : Jordan) : eqJ a b = eqJ b a :=
  Bool.eq_iff_iff.mpr ⟨eqJ_symm a b, eqJ_symm b a⟩
theorem eqJ_trans (a b c : Jordan) (h1 : eqJ a b = true) (h2 : eqJ b c = true) : eqJ a c = true :=
  (eqJ_iff a c).mpr (((eqJ_iff a b).mp h1).trans ((eqJ_iff b c).mp h2))

/-! ### (4) the start vertex does not matter -/
theorem canonCycle_rotate (vs : List Pt) (hnd : vs.Nodup) (k : Nat) (hk : k ≤ vs.length) :
    canonCycle (rotateL vs k) = canonCycle vs := Alg.canonCycle_rotate vs hnd k

/-- "no removable vertex" is invariant under rotation -/
theorem cleanStep_rotate (vs : List Pt) (k : Nat) (hk : k ≤ vs.length) (h : cleanStep vs = none) :
    cleanStep (rotateL vs k) = none := ShapeVerif.cleanStep_rotate vs k h

theorem eqJ_rotate_partial (vs : List Pt) (hnd : vs.Nodup) (hclean : cleanStep vs = none)
    (k : Nat) (hk : k ≤ vs.length) :
    eqJ (Jordan.fromVertices (rotateL vs k)) (Jordan.fromVertices vs) = true := by
  rw [eqJ_iff, canonJ_fromVertices _ hclean, canonJ_fromVertices _ (ShapeVerif.cleanStep_rotate vs k hclean),
    Alg.canonCycle_rotate vs hnd k]

/-! ### non-vacuity -/
def sqV : List Pt := [⟨0,0⟩, ⟨2,0⟩, ⟨2,2⟩, ⟨0,2⟩]
example : sqV.Nodup ∧ cleanStep sqV = none ∧ rotateL sqV 3 = [⟨0,2⟩, ⟨0,0⟩, ⟨2,0⟩, ⟨2,2⟩] := by decide +kernel
-- a removable midpoint is cleaned away; the reversed curve is a different (oriented) curve
example : eqJ (Jordan.fromVertices [⟨0,0⟩, ⟨1,0⟩, ⟨2,0⟩, ⟨2,2⟩, ⟨0,2⟩]) (Jordan.fromVertices sqV) = true ∧
    eqJ (Jordan.fromVertices sqV).invert (Jordan.fromVertices sqV) = false := by decide +kernel
example : regionEq (.simple (Jordan.fromVertices sqV)) (.simple (Jordan.fromVertices (rotateL sqV 2))) = true ∧
    regionEq (.simple (Jordan.fromVertices sqV)) (.simple (Jordan.fromVertices [⟨0,0⟩, ⟨3,0⟩, ⟨3,2⟩, ⟨0,2⟩])) = false := by
  decide +kernel

end ShapeVerif.C07
