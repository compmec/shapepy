/-
C07b — `jordan == jordan` does not depend on the start vertex, INCLUDING polygons with removable (collinear) vertices.

C07's `eqJ_rotate_partial` asks for "no removable vertex".  The general case rests on the confluence of the cleaning loop (`JordanCurve.clean`:
repeatedly drop the first vertex lying between its neighbours on a straight line) under a change of the start vertex (Proofs/Cycle.lean):
 * `clean_keeps_exactly_the_corners` — with enough fuel the loop returns exactly the NON-removable vertices, in order (removability of a vertex does
   not depend on which other removable vertices were already dropped: an exact rational identity);
 * `corners_rotate` — the survivors of a rotated vertex list are a rotation of the survivors;
 * `eqJ_rotate_all` — hence `==` (model) of a polygon and the same polygon started at ANY vertex is True, for every duplicate-free vertex list
   with at least three corners.  Together with C07 (3): `eqJ` is an equivalence that identifies all start vertices and all redundant collinear vertices.
-/
import ShapeVerif.Proofs.Cycle

namespace ShapeVerif.C07
open ShapeVerif

theorem clean_keeps_exactly_the_corners (vs : List Pt) (hnd : vs.Nodup) (h3 : 3 ≤ (keepers vs).length) :
    cleanCycle vs.length vs = keepers vs :=
  CleanRot.cleanCycle_eq_keepers vs.length vs (Nat.le_add_right _ _) h3

theorem corners_rotate (vs : List Pt) (hnd : vs.Nodup) (k : Nat) (hk : k ≤ vs.length) :
    ∃ m, m ≤ (keepers vs).length ∧ keepers (rotateL vs k) = rotateL (keepers vs) m := CleanRot.keepers_rotate vs k

/-- start-vertex independence of `==`, redundant vertices allowed -/
theorem eqJ_rotate_all (vs : List Pt) (hnd : vs.Nodup) (h3 : 3 ≤ (keepers vs).length) (k : Nat) (hk : k ≤ vs.length) :
    eqJ (Jordan.fromVertices (rotateL vs k)) (Jordan.fromVertices vs) = true :=
  ShapeVerif.eqJ_rotate_all vs hnd h3 k hk

/-! non-vacuity: a square with three redundant vertices, started at a redundant one -/
def sq7 : List Pt := [⟨0,0⟩, ⟨1,0⟩, ⟨2,0⟩, ⟨3,0⟩, ⟨3,2⟩, ⟨3,3⟩, ⟨0,3⟩]
example : keepers sq7 = [⟨0,0⟩, ⟨3,0⟩, ⟨3,3⟩, ⟨0,3⟩] ∧ sq7.Nodup := by decide +kernel
example : eqJ (Jordan.fromVertices (rotateL sq7 2)) (Jordan.fromVertices sq7) = true :=
  eqJ_rotate_all sq7 (by decide +kernel) (by decide +kernel) 2 (by decide)

end ShapeVerif.C07
