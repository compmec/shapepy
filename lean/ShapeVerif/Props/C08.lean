/-
C08 — operators and copies share no mutable state with their inputs; in-place operations leave
every other object intact.
The heap theorems are readings of lemmas of Proofs/Heap.lean with `sep` as the executable test; the last section is
about the regenerated operator terms (`Gen.definedOr`, `Gen.definedAnd`).
Quantifiers: every theorem is for ALL well-formed separated heaps and ALL operations (every variable,
every displacement/factor/angle, every split request), or for ALL histories `ops : List HeapOp`
started from the empty heap.  `op.target` is the variable an operation writes
(`poly v`, `move v`, `scale v`, `rot v`, `invert v`, `len v`, `split v` ↦ `v`; `copy d s`, `adopt d s` ↦ `d`).
-/
import ShapeVerif.Proofs.Heap
import ShapeVerif.Gen.Dispatch

namespace ShapeVerif.C08
open ShapeVerif Heap

/-! ### the invariants -/

theorem wf_init : Heap.init.WF := WF.init

/-- well-formedness is preserved by every operation -/
theorem wf_step {h : Heap} (op : HeapOp) (hw : h.WF) : (h.step op).1.WF := hw.step op

/-- separation (distinct variables own disjoint cells) is preserved by every operation -/
theorem sep_step {h : Heap} (op : HeapOp) (hw : h.WF) (hs : h.sep = true) : (h.step op).1.sep = true :=
  (sep_iff _).mpr (((sep_iff h).mp hs).step hw op)

theorem wf_runOps (ops : List HeapOp) : (Heap.init.runOps ops).WF := (Inv.init.runOps ops).wf

/-- after every history distinct variables own disjoint cells -/
theorem sep_runOps (ops : List HeapOp) : (Heap.init.runOps ops).sep = true :=
  (sep_iff _).mpr (Inv.init.runOps ops).sep

/-! ### frame: an operation changes the geometry of its target only -/

/-- every operation leaves the geometry of every variable other than its target unchanged -/
theorem frame {h : Heap} (op : HeapOp) (w : Nat) (hw : h.WF) (hs : h.sep = true) (hne : op.target ≠ w) :
    ((h.step op).1.lookup w).map (h.step op).1.geom = (h.lookup w).map h.geom :=
  frame_step hw ((sep_iff h).mp hs) op hne

section instances
variable {h : Heap} (hw : h.WF) (hs : h.sep = true) {v w : Nat} (hne : v ≠ w)
include hw hs hne

theorem frame_move (d : Pt) :
    ((h.step (.move v d)).1.lookup w).map (h.step (.move v d)).1.geom = (h.lookup w).map h.geom :=
  frame (.move v d) w hw hs hne
theorem frame_scale (sx sy : Rat) :
    ((h.step (.scale v sx sy)).1.lookup w).map (h.step (.scale v sx sy)).1.geom = (h.lookup w).map h.geom :=
  frame (.scale v sx sy) w hw hs hne
theorem frame_rot (c s : Rat) :
    ((h.step (.rot v c s)).1.lookup w).map (h.step (.rot v c s)).1.geom = (h.lookup w).map h.geom :=
  frame (.rot v c s) w hw hs hne
theorem frame_invert :
    ((h.step (.invert v)).1.lookup w).map (h.step (.invert v)).1.geom = (h.lookup w).map h.geom :=
  frame (.invert v) w hw hs hne
theorem frame_len :
    ((h.step (.len v)).1.lookup w).map (h.step (.len v)).1.geom = (h.lookup w).map h.geom :=
  frame (.len v) w hw hs hne
theorem frame_split (pairs : List (Nat × Rat)) :
    ((h.step (.split v pairs)).1.lookup w).map (h.step (.split v pairs)).1.geom = (h.lookup w).map h.geom :=
  frame (.split v pairs) w hw hs hne
theorem frame_poly (vs : List Pt) :
    ((h.step (.poly v vs)).1.lookup w).map (h.step (.poly v vs)).1.geom = (h.lookup w).map h.geom :=
  frame (.poly v vs) w hw hs hne
/-- `copy d s` with destination `v`: every variable other than the destination keeps its geometry
(in particular the source) -/
theorem frame_copy (s : Nat) :
    ((h.step (.copy v s)).1.lookup w).map (h.step (.copy v s)).1.geom = (h.lookup w).map h.geom :=
  frame (.copy v s) w hw hs hne
theorem frame_adopt (s : Nat) :
    ((h.step (.adopt v s)).1.lookup w).map (h.step (.adopt v s)).1.geom = (h.lookup w).map h.geom :=
  frame (.adopt v s) w hw hs hne
end instances

/-- frame along a whole history: a variable that no operation of the history targets keeps its geometry -/
theorem frame_runOps {h : Heap} (w : Nat) (ops : List HeapOp) (hw : h.WF) (hs : h.sep = true)
    (hne : ∀ op ∈ ops, op.target ≠ w) :
    ((h.runOps ops).lookup w).map (h.runOps ops).geom = (h.lookup w).map h.geom :=
  Heap.frame_runOps hw ((sep_iff h).mp hs) ops hne

/-! ### copies -/

/-- after `copy d s` the destination is value-equal to the source and the source is unchanged -/
theorem copy_geom {h : Heap} (d s : Nat) (c : HCurve) (hw : h.WF) (hs : h.sep = true)
    (hl : h.lookup s = some c) :
    ((h.step (.copy d s)).1.lookup d).map (h.step (.copy d s)).1.geom = some (h.geom c)
    ∧ ((h.step (.copy d s)).1.lookup s).map (h.step (.copy d s)).1.geom = some (h.geom c) := by
  have hd : ((h.step (.copy d s)).1.lookup d).map (h.step (.copy d s)).1.geom = some (h.geom c) :=
    view_step_copy d hl
  refine ⟨hd, ?_⟩
  by_cases e : d = s
  · subst e; exact hd
  · rw [frame_copy hw hs e s, hl]; rfl

/-- the same for the constructor that adopts (deep-copies) its argument: in the model `adopt d s` is the
same state transformer as `copy d s` -/
theorem adopt_geom {h : Heap} (d s : Nat) (c : HCurve) (hw : h.WF) (hs : h.sep = true)
    (hl : h.lookup s = some c) :
    ((h.step (.adopt d s)).1.lookup d).map (h.step (.adopt d s)).1.geom = some (h.geom c)
    ∧ ((h.step (.adopt d s)).1.lookup s).map (h.step (.adopt d s)).1.geom = some (h.geom c) :=
  copy_geom d s c hw hs hl

/-- the copy owns fresh cells only: it shares no cell with the heap it was made in -/
theorem copy_fresh (h : Heap) (c : HCurve) :
    ∀ i ∈ (h.copyCurve c).2.segs.flatten, h.cells.length ≤ i :=
  fun i hi => (copyCurve_fresh h c i hi).1

/-- mutating a copy never changes the original: after `copy d s`, ANY history of operations that do
not target `s` leaves the geometry of `s` as it was -/
theorem copy_then_mutate {h : Heap} (d s : Nat) (c : HCurve) (ops : List HeapOp) (hw : h.WF)
    (hs : h.sep = true) (hl : h.lookup s = some c) (hne : ∀ op ∈ ops, op.target ≠ s) :
    (((h.step (.copy d s)).1.runOps ops).lookup s).map ((h.step (.copy d s)).1.runOps ops).geom
      = some (h.geom c) := by
  rw [frame_runOps s ops (wf_step _ hw) (sep_step _ hw hs) hne]
  exact (copy_geom d s c hw hs hl).2

/-- mutating the original never changes a copy: after `copy d s`, ANY history of operations that do
not target `d` leaves the geometry of `d` equal to the geometry `s` had when the copy was made -/
theorem mutate_then_copy_intact {h : Heap} (d s : Nat) (c : HCurve) (ops : List HeapOp) (hw : h.WF)
    (hs : h.sep = true) (hl : h.lookup s = some c) (hne : ∀ op ∈ ops, op.target ≠ d) :
    (((h.step (.copy d s)).1.runOps ops).lookup d).map ((h.step (.copy d s)).1.runOps ops).geom
      = some (h.geom c) := by
  rw [frame_runOps d ops (wf_step _ hw) (sep_step _ hw hs) hne]
  exact (copy_geom d s c hw hs hl).1

/-! ### non-vacuity -/

def demo : List HeapOp :=
  [.poly 0 [⟨0, 0⟩, ⟨4, 0⟩, ⟨0, 4⟩], .copy 1 0, .move 1 ⟨10, 0⟩, .len 1, .split 1 [(0, 1/2), (2, 1/4)],
   .adopt 2 1, .rot 2 0 1, .invert 0]

/-- a history with a triangle, a copy, a move of the copy, a query, a split, an adopted copy, a
rotation and an inversion: three live variables owning 3 + 5 + 5 distinct cells, separated -/
example : (Heap.init.runOps demo).sep = true
    ∧ (Heap.init.runOps demo).cells.length = 13
    ∧ ((Heap.init.runOps demo).vars.map fun p => (p.1, (ids p.2).length)) = [(0, 3), (2, 5), (1, 5)] := by
  decide +kernel

/-- the conclusion of the frame theorem is not trivial: the move really changes its target … -/
example :
    let h := Heap.init.runOps [.poly 0 [⟨0, 0⟩, ⟨4, 0⟩, ⟨0, 4⟩], .copy 1 0]
    ((h.step (.move 1 ⟨10, 0⟩)).1.lookup 1).map (h.step (.move 1 ⟨10, 0⟩)).1.geom
        = some [[⟨10, 0⟩, ⟨14, 0⟩], [⟨14, 0⟩, ⟨10, 4⟩], [⟨10, 4⟩, ⟨10, 0⟩]]
    ∧ ((h.step (.move 1 ⟨10, 0⟩)).1.lookup 0).map (h.step (.move 1 ⟨10, 0⟩)).1.geom
        = some [[⟨0, 0⟩, ⟨4, 0⟩], [⟨4, 0⟩, ⟨0, 4⟩], [⟨0, 4⟩, ⟨0, 0⟩]] := by decide +kernel

/-- … and separation is a real hypothesis: a heap in which two variables alias the same cells is
well-formed, and there a move of one variable does change the other -/
def aliased : Heap := ⟨[⟨0, 0⟩, ⟨1, 0⟩], [(0, ⟨[[0, 1], [1, 0]], none⟩), (1, ⟨[[0, 1], [1, 0]], none⟩)]⟩

example : aliased.sep = false
    ∧ ((aliased.step (.move 0 ⟨5, 5⟩)).1.lookup 1).map (aliased.step (.move 0 ⟨5, 5⟩)).1.geom
        ≠ (aliased.lookup 1).map aliased.geom := by decide +kernel

example : aliased.WF := by
  refine ⟨by decide, ?_⟩
  intro v c hv i hi
  simp only [aliased, List.mem_cons, Prod.mk.injEq, List.not_mem_nil, or_false] at hv
  rcases hv with ⟨_, rfl⟩ | ⟨_, rfl⟩ <;> simp at hi <;> simp [aliased] <;> omega

/-! ### the operator layer (terms regenerated from shape.py on every run) -/

/-- every short-cut return of `DefinedShape.__or__/__and__` and every Empty/Whole operator hands out a
fresh object (`copy(…)`, a newly computed shape) or a singleton — never one of the operands itself
(`self` is allowed only for the Empty/Whole singletons, which are immutable) -/
theorem shortcut_results_fresh :
    (Gen.definedOr.guards.all fun gt => gt.2.isFresh) = true ∧
    (Gen.definedAnd.guards.all fun gt => gt.2.isFresh) = true ∧
    Gen.definedOr.onEmpty.isFresh = true ∧ Gen.definedAnd.onEmpty.isFresh = true ∧
    (Gen.emptyOps.all fun nt => nt.2.isFresh || nt.2 == .self) = true ∧
    (Gen.wholeOps.all fun nt => nt.2.isFresh || nt.2 == .self) = true := by decide +kernel

end ShapeVerif.C08
