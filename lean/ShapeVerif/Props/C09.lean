/-
C09 — `move/scale/rotate` transform every vertex exactly once although junction points are shared
between neighbouring segments (and although a cell id may occur many times in the segment lists).
Quantifiers: ALL well-formed heaps, ALL variables, ALL curves (any sharing pattern of ids inside
`c.segs`), ALL displacements / factors / cosine-sine pairs.
-/
import ShapeVerif.Proofs.Heap
import ShapeVerif.Proofs.Plane

namespace ShapeVerif.C09
open ShapeVerif Heap

/-! ### geometry level: the new geometry is the pointwise image of the old one -/

/-- `op` is `move v d`, `scale v sx sy` or `rot v cs sn` and `f` the map it applies to a point (`HeapOp.ptMap`) -/
theorem transform_geom {h : Heap} {op : HeapOp} {f : Pt → Pt} (c : HCurve) (hw : h.WF) (hf : op.ptMap = some f)
    (hl : h.lookup op.target = some c) :
    ((h.step op).1.lookup op.target).map (h.step op).1.geom = some (List.map (List.map f) (h.geom c)) :=
  view_step_ptMap hw hf hl

/-! ### cell level: an owned cell receives the transformation once, every other cell is untouched -/

/-- the id list handed to the transformation has no duplicates and lists exactly the ids of the curve -/
theorem ids_nodup_complete (c : HCurve) : (ids c).Nodup ∧ ∀ i, i ∈ ids c ↔ i ∈ c.segs.flatten :=
  ⟨nodup_ids c, mem_ids c⟩

theorem transform_owned_cell {h : Heap} (v : Nat) (c : HCurve) (f : Pt → Pt) (i : Nat) (hw : h.WF)
    (hl : h.lookup v = some c) (hi : i ∈ c.segs.flatten) :
    (h.mapCells (ids c) f).cell i = f (h.cell i) :=
  (cell_mapCells h c f i).trans (if_pos ⟨hi, hw.bound v c (lookup_mem hl) i hi⟩)

theorem transform_other_cell (h : Heap) (c : HCurve) (f : Pt → Pt) (i : Nat) (hi : i ∉ c.segs.flatten) :
    (h.mapCells (ids c) f).cell i = h.cell i :=
  (cell_mapCells h c f i).trans (if_neg fun hm => hi hm.1)

/-! ### the inverse transformation restores the geometry (`Geom.Pt.move_move_neg`, `scale_scale_inv`, `rot_rot_neg`) -/

/-- heap level: moving by `d` and then by `-d` restores the geometry of the curve exactly -/
theorem move_roundtrip {h : Heap} (v : Nat) (d : Pt) (c : HCurve) (hw : h.WF) (hl : h.lookup v = some c) :
    (((h.step (.move v d)).1.step (.move v d.neg)).1.lookup v).map
        ((h.step (.move v d)).1.step (.move v d.neg)).1.geom = some (h.geom c) :=
  view_roundtrip hw (op := .move v d) (op' := .move v d.neg) rfl rfl rfl (fun p => Geom.Pt.move_move_neg p d) hl

/-- scaling by `(a, b)` and then by `(1/a, 1/b)` restores the geometry (`a, b ≠ 0`) -/
theorem scale_roundtrip {h : Heap} (v : Nat) (a b : Rat) (c : HCurve) (ha : a ≠ 0) (hb : b ≠ 0) (hw : h.WF)
    (hl : h.lookup v = some c) :
    (((h.step (.scale v a b)).1.step (.scale v (1 / a) (1 / b))).1.lookup v).map
        ((h.step (.scale v a b)).1.step (.scale v (1 / a) (1 / b))).1.geom = some (h.geom c) :=
  view_roundtrip hw (op := .scale v a b) (op' := .scale v (1 / a) (1 / b)) rfl rfl rfl
    (fun p => Geom.Pt.scale_scale_inv p a b ha hb) hl

/-- rotating by the angle with cosine/sine `(cs, sn)` and then by the opposite angle restores the geometry -/
theorem rot_roundtrip {h : Heap} (v : Nat) (cs sn : Rat) (c : HCurve) (hcs : cs * cs + sn * sn = 1)
    (hw : h.WF) (hl : h.lookup v = some c) :
    (((h.step (.rot v cs sn)).1.step (.rot v cs (-sn))).1.lookup v).map
        ((h.step (.rot v cs sn)).1.step (.rot v cs (-sn))).1.geom = some (h.geom c) :=
  view_roundtrip hw (op := .rot v cs sn) (op' := .rot v cs (-sn)) rfl rfl rfl (fun p => Geom.Pt.rot_rot_neg p cs sn hcs) hl

/-! ### non-vacuity -/

/-- a triangle: 3 cells, 6 id occurrences (every junction is shared by two segments); after the move
every vertex has been displaced once (a double update would give x = 20 at the junctions) -/
example :
    let h := Heap.init.runOps [.poly 0 [⟨0, 0⟩, ⟨4, 0⟩, ⟨0, 4⟩]]
    ((h.lookup 0).map fun c => (c.segs.flatten.length, (ids c).length)) = some (6, 3)
    ∧ ((h.step (.move 0 ⟨10, 0⟩)).1.lookup 0).map (h.step (.move 0 ⟨10, 0⟩)).1.geom
        = some [[⟨10, 0⟩, ⟨14, 0⟩], [⟨14, 0⟩, ⟨10, 4⟩], [⟨10, 4⟩, ⟨10, 0⟩]] := by decide +kernel

/-- deduplication is what makes it "once": mapping over the raw occurrence list instead of `ids c`
displaces every shared junction twice -/
example :
    let h := Heap.init.runOps [.poly 0 [⟨0, 0⟩, ⟨4, 0⟩, ⟨0, 4⟩]]
    (h.lookup 0).map (fun c => (h.mapCells c.segs.flatten fun p => p.move ⟨10, 0⟩).geom c)
      = some [[⟨20, 0⟩, ⟨24, 0⟩], [⟨24, 0⟩, ⟨20, 4⟩], [⟨20, 4⟩, ⟨20, 0⟩]] := by decide +kernel

/-- a longer history: copy, split of the copy (fresh junction cells), scale and quarter-turn rotation;
the results are the pointwise images -/
example :
    let h := Heap.init.runOps [.poly 0 [⟨0, 0⟩, ⟨4, 0⟩, ⟨0, 4⟩], .copy 1 0, .split 1 [(0, 1/2)],
      .scale 1 2 3, .rot 1 0 1, .len 1]
    (h.lookup 1).map h.geom
        = some [[⟨0, 0⟩, ⟨0, 4⟩], [⟨0, 4⟩, ⟨0, 8⟩], [⟨0, 8⟩, ⟨-12, 0⟩], [⟨-12, 0⟩, ⟨0, 0⟩]]
    ∧ (h.lookup 0).map h.geom = some [[⟨0, 0⟩, ⟨4, 0⟩], [⟨4, 0⟩, ⟨0, 4⟩], [⟨0, 4⟩, ⟨0, 0⟩]]
    ∧ h.WF := by
  refine ⟨by decide +kernel, by decide +kernel, (Inv.init.runOps _).wf⟩

end ShapeVerif.C09
