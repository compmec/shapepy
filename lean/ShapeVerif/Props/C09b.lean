/-
C09b — `Point2D.move` and `Point2D.scale` as written in the SOURCE (regenerated into `Gen/Arith.lean` on every run)
are the affine maps the heap-level theorems of C09 apply to every cell: translation by the vector, axis scaling by the two
factors; they compose and invert as the maps do.
-/
import ShapeVerif.Proofs.Plane
import ShapeVerif.Proofs.SourceBridges

namespace ShapeVerif.C09
open ShapeVerif

theorem source_move_is_translation (p v : Pt) : Gen.ptMove p v = ⟨p.x + v.x, p.y + v.y⟩ := by
  rw [Source.ptMove_is_model]; rfl

theorem source_scale_is_axis_scaling (p : Pt) (sx sy : Rat) : Gen.ptScale p sx sy = ⟨p.x * sx, p.y * sy⟩ := by
  rw [Source.ptScale_is_model]; rfl

theorem source_move_is_model : Gen.ptMove = Pt.move := Source.ptMove_is_model

theorem source_scale_is_model : Gen.ptScale = Pt.scale := Source.ptScale_is_model

/-- moving back restores the point exactly -/
theorem source_move_roundtrip (p d : Pt) : Gen.ptMove (Gen.ptMove p d) d.neg = p := by
  rw [source_move_is_model]; exact Geom.Pt.move_move_neg p d

/-- scaling by the reciprocal factors restores the point exactly -/
theorem source_scale_roundtrip (p : Pt) (a b : Rat) (ha : a ≠ 0) (hb : b ≠ 0) :
    Gen.ptScale (Gen.ptScale p a b) (1 / a) (1 / b) = p := by
  rw [source_scale_is_model]; exact Geom.Pt.scale_scale_inv p a b ha hb

/-- two moves compose to the move by the sum -/
theorem source_move_move (p d e : Pt) : Gen.ptMove (Gen.ptMove p d) e = Gen.ptMove p (d + e) := by
  rw [source_move_is_model]; exact Geom.Pt.move_move p d e

example : Gen.ptMove ⟨1/2, 3⟩ ⟨-1, 1/3⟩ = ⟨-1/2, 10/3⟩ := by decide +kernel
example : Gen.ptScale ⟨1/2, 3⟩ 4 (-1/3) = ⟨2, -1⟩ := by decide +kernel

end ShapeVerif.C09
