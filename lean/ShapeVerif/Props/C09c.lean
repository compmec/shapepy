/-
C09c — `move`, `scale`, `rotate` of curves with pieces of EVERY degree.

shapepy transforms a curve by transforming its control points (C09: every cell exactly once).  For control polygons of every
length and every rational parameter t:
  * the transformed control points describe the transformed curve (affine invariance of Bézier curves, Proofs/AffineCurve.lean):
       (T ∘ seg)(t) = seg_{T(control points)}(t)     for T = translation, axis scaling, exact rotation,
    and the derivative curve transforms by the linear part;
  * the boundary integrals change as the measure does (Proofs/AffineIntegral.lean):
       ∫ x^a y^b dy over the scaled piece = sx^a · sy^(b+1) · ∫ over the piece     (all a, b),
    so the area of a scaled shape is sx·sy times the area; under a translation or an exact rotation `∫ x dy` over a piece changes
    by a term that depends on its two end points only, so the signed area of a CLOSED curve is invariant, and its first moments
    move with it: m10(j + d) = m10(j) + d.x · area, m01(j + d) = m01(j) + d.y · area.
-/
import ShapeVerif.Props.C09b
import ShapeVerif.Proofs.AffineIntegral

namespace ShapeVerif.C09
open ShapeVerif

/-- the Bernstein basis is a partition of unity (what makes translation commute with evaluation) -/
theorem bernstein_sums_to_one (n : Nat) (t : Rat) : bernsteinCoord (List.replicate (n + 1) 1) t = 1 :=
  bernstein_partition_of_unity n t

theorem curve_move_all (s : Seg) (hs : s ≠ []) (d : Pt) (t : Rat) :
    evalSeg (s.map (·.move d)) t = (evalSeg s t).move d := evalSeg_map_move s hs d t

theorem curve_scale_all (s : Seg) (sx sy : Rat) (t : Rat) :
    evalSeg (s.map (·.scale sx sy)) t = (evalSeg s t).scale sx sy := evalSeg_map_scale s sx sy t

theorem curve_rot_all (s : Seg) (c sn : Rat) (t : Rat) :
    evalSeg (s.map (·.rot c sn)) t = (evalSeg s t).rot c sn :=
  evalSeg_map_rot s c sn t

/-- the same with the maps AS WRITTEN IN THE SOURCE (`Point2D.move`, `Point2D.scale`, regenerated in Gen/Arith.lean) -/
theorem source_curve_move_all (s : Seg) (hs : s ≠ []) (d : Pt) (t : Rat) :
    evalSeg (s.map (Gen.ptMove · d)) t = Gen.ptMove (evalSeg s t) d := by
  rw [source_move_is_model]; exact curve_move_all s hs d t

theorem source_curve_scale_all (s : Seg) (sx sy : Rat) (t : Rat) :
    evalSeg (s.map (Gen.ptScale · sx sy)) t = Gen.ptScale (evalSeg s t) sx sy := by
  rw [source_scale_is_model]; exact curve_scale_all s sx sy t

/-- the tangent (derivative curve) is unchanged by a translation and scaled by a scaling -/
theorem tangent_move_all (s : Seg) (hs : 2 ≤ s.length) (d : Pt) : derivSeg (s.map (·.move d)) = derivSeg s :=
  derivSeg_map_move s d

theorem tangent_scale_all (s : Seg) (sx sy : Rat) : derivSeg (s.map (·.scale sx sy)) = (derivSeg s).map (·.scale sx sy) :=
  derivSeg_map_scale s sx sy

/-- boundary integrals of a scaled piece of ANY degree -/
theorem integral_scale_all (s : Seg) (hs : 2 ≤ s.length) (sx sy : Rat) (a b : Nat) :
    exactVertical (s.map (·.scale sx sy)) a b = sx ^ a * sy ^ (b + 1) * exactVertical s a b :=
  exactVertical_map_scale s sx sy a b

/-- the signed area ∫ x dy of a closed curve with pieces of any degree scales by sx·sy -/
theorem area_scale_all (j : Jordan) (hj : ∀ s ∈ j, 2 ≤ s.length) (sx sy : Rat) :
    Jordan.area (j.map (·.scale sx sy)) = sx * sy * Jordan.area j :=
  Jordan.area_map_scale j sx sy

/-! ### translation: the area of a CLOSED curve with pieces of any degree does not depend on its position -/

/-- a piece starts at its first and ends at its last control point -/
theorem curve_end_points (s : Seg) (hs : s ≠ []) : evalSeg s 0 = s.headD Pt.zero ∧ evalSeg s 1 = s.getLastD Pt.zero :=
  ⟨evalSeg_zero s, evalSeg_one s⟩

/-- ∫ dy over a piece is the rise of its ordinate (fundamental theorem; the case b = 0 of `exactVertical_y_pow`) -/
theorem integral_dy (s : Seg) (hs : 2 ≤ s.length) : exactVertical s 0 0 = (s.getLastD Pt.zero).y - (s.headD Pt.zero).y := by
  simpa using exactVertical_y_pow s 0

/-- ∮ dy = 0 around every closed chain -/
theorem closed_curve_dy (j : Jordan) (hj : ∀ s ∈ j, 2 ≤ s.length)
    (hchain : ∀ p ∈ j.zip (j.tail ++ j.take 1), (p.1.getLastD Pt.zero).y = (p.2.headD Pt.zero).y) :
    jordanExactVertical j 0 0 = 0 :=
  jordanExactVertical_y_pow_closed j hchain 0

/-- moving a piece: ∫ (x + dx) dy = ∫ x dy + dx ∫ dy -/
theorem integral_move (s : Seg) (hs : 2 ≤ s.length) (d : Pt) :
    exactVertical (s.map (·.move d)) 1 0 = exactVertical s 1 0 + d.x * exactVertical s 0 0 :=
  exactVertical_map_move_10 s d

/-- hence the signed area of a closed curve with pieces of any degree is invariant under translation -/
theorem area_move_all (j : Jordan) (hj : ∀ s ∈ j, 2 ≤ s.length)
    (hchain : ∀ p ∈ j.zip (j.tail ++ j.take 1), (p.1.getLastD Pt.zero).y = (p.2.headD Pt.zero).y) (d : Pt) :
    Jordan.area (j.map (·.move d)) = Jordan.area j :=
  Jordan.area_map_move_closed j hchain d

/-! ### rotation: the area of a CLOSED curve with pieces of any degree is invariant under every exact rotation -/

/-- one piece: ∫ x' dy' of the rotated piece = (c² + s²) ∫ x dy + a term that depends only on the two end points -/
theorem integral_rot (s : Seg) (hs : 2 ≤ s.length) (c sn : Rat) :
    exactVertical (s.map (·.rot c sn)) 1 0
      = (c * c + sn * sn) * exactVertical s 1 0
        + c * sn * (((s.getLastD Pt.zero).x ^ 2 - (s.headD Pt.zero).x ^ 2) - ((s.getLastD Pt.zero).y ^ 2 - (s.headD Pt.zero).y ^ 2)) / 2
        - sn * sn * ((s.getLastD Pt.zero).x * (s.getLastD Pt.zero).y - (s.headD Pt.zero).x * (s.headD Pt.zero).y) := by
  rw [rot_eq_aff, exactVertical_map_aff]
  unfold affPot; ring

/-- around a closed chain the end-point terms telescope: the signed area is invariant under rotation (c² + s² = 1), any degree -/
theorem area_rot_all (j : Jordan) (hj : ∀ s ∈ j, 2 ≤ s.length)
    (hchain : ∀ p ∈ j.zip (j.tail ++ j.take 1), p.1.getLastD Pt.zero = p.2.headD Pt.zero)
    (c sn : Rat) (h : c * c + sn * sn = 1) : Jordan.area (j.map (·.rot c sn)) = Jordan.area j := by
  rw [Jordan.area_map_rot j hchain, h, one_mul]

/-! ### the first moments (centroid) of a closed curve of any degree move with the shape -/

theorem moment10_move_all (j : Jordan) (hj : ∀ s ∈ j, 2 ≤ s.length)
    (hchain : ∀ p ∈ j.zip (j.tail ++ j.take 1), p.1.getLastD Pt.zero = p.2.headD Pt.zero) (d : Pt) :
    Jordan.moment (j.map (·.move d)) 1 0 = Jordan.moment j 1 0 + d.x * Jordan.area j :=
  Jordan.moment_10_map_move j (fun p hp => by rw [hchain p hp]) d

theorem moment01_move_all (j : Jordan) (hj : ∀ s ∈ j, 2 ≤ s.length)
    (hchain : ∀ p ∈ j.zip (j.tail ++ j.take 1), p.1.getLastD Pt.zero = p.2.headD Pt.zero) (d : Pt) :
    Jordan.moment (j.map (·.move d)) 0 1 = Jordan.moment j 0 1 + d.y * Jordan.area j :=
  Jordan.moment_01_map_move j (fun p hp => by rw [hchain p hp]) d

/-! non-vacuity: a cubic moved, scaled and rotated (3-4-5) agrees with the moved / scaled / rotated point of the curve -/
example : evalSeg (([⟨0,0⟩, ⟨1,2⟩, ⟨3,0⟩, ⟨4,1⟩] : Seg).map (·.rot (3/5) (4/5))) (1/3)
    = (evalSeg [⟨0,0⟩, ⟨1,2⟩, ⟨3,0⟩, ⟨4,1⟩] (1/3)).rot (3/5) (4/5) := curve_rot_all _ _ _ _

end ShapeVerif.C09
