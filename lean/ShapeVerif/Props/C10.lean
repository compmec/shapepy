/-
C10 — answers depend only on the current geometry: the cached signed length is never stale.
Quantifiers: every theorem is for ALL heaps satisfying the stated invariants and ALL operations, or
for ALL histories `ops : List HeapOp` started from the empty heap.
-/
import ShapeVerif.Proofs.Heap

namespace ShapeVerif.C10
open ShapeVerif Heap

/-- one step keeps every cached length consistent with the current geometry -/
theorem cacheOK_step {h : Heap} (op : HeapOp) (hw : h.WF) (hs : h.sep = true) (hc : h.cacheOK = true) :
    (h.step op).1.cacheOK = true :=
  (cacheOK_iff _).mpr (((cacheOK_iff h).mp hc).step hw ((sep_iff h).mp hs) op)

/-- after every history the cache is consistent -/
theorem cacheOK_runOps (ops : List HeapOp) : (Heap.init.runOps ops).cacheOK = true :=
  (cacheOK_iff _).mpr (Inv.init.runOps ops).cache

/-- in every reachable heap the signed-length query answers from the CURRENT geometry -/
theorem lenAnswer_eq_geom {h : Heap} (r : h.Reachable) (v : Nat) :
    h.lenAnswer v = (h.lookup v).map h.geom :=
  lenAnswer_of_cacheOK r.inv.cache v

/-- the same, spelled out over histories -/
theorem lenAnswer_runOps (ops : List HeapOp) (v : Nat) :
    (Heap.init.runOps ops).lenAnswer v
      = ((Heap.init.runOps ops).lookup v).map (Heap.init.runOps ops).geom :=
  lenAnswer_eq_geom ⟨ops, rfl⟩ v

/-- … which is what a fresh deep copy (whose cache is empty) would answer -/
theorem lenAnswer_eq_fresh_copy {h : Heap} (r : h.Reachable) (v : Nat) (c : HCurve)
    (hl : h.lookup v = some c) :
    h.lenAnswer v = some ((h.copyCurve c).1.geom (h.copyCurve c).2) ∧ (h.copyCurve c).2.cache = none := by
  rw [lenAnswer_eq_geom r v, hl, geom_copyCurve]
  exact ⟨rfl, rfl⟩

/-- the cache of the model stores the GEOMETRY at fill time, so the statement is not about the length in particular: every quantity derived from
a cached value (signed length, box, area, derivative curves, …: any function `f` of the geometry) equals the same quantity computed from the
current geometry, in every reachable heap — a memo of ANY function of the geometry that every mutator resets is never stale -/
theorem derived_answer_eq_geom {α : Type} (f : List (List Pt) → α) {h : Heap} (r : h.Reachable) (v : Nat) :
    (h.lenAnswer v).map f = ((h.lookup v).map h.geom).map f := by
  rw [lenAnswer_eq_geom r v]

/-- … and over histories -/
theorem derived_answer_runOps {α : Type} (f : List (List Pt) → α) (ops : List HeapOp) (v : Nat) :
    ((Heap.init.runOps ops).lenAnswer v).map f
      = (((Heap.init.runOps ops).lookup v).map (Heap.init.runOps ops).geom).map f :=
  derived_answer_eq_geom f ⟨ops, rfl⟩ v

/-! ### the pinned (unrepaired) behaviour: transformations keep the cached length -/

/-- `Heap.step` except that `move/scale/rot` leave `c.cache` as it is (the defect of the pinned code) -/
def stepStale (h : Heap) : HeapOp → Heap × String
  | .move v d => match h.lookup v with
    | none => (h, "novar")
    | some c => ((h.mapCells (ids c) fun p => p.move d).setVar v c, "ok")
  | .scale v sx sy => match h.lookup v with
    | none => (h, "novar")
    | some c => ((h.mapCells (ids c) fun p => p.scale sx sy).setVar v c, "ok")
  | .rot v cs sn => match h.lookup v with
    | none => (h, "novar")
    | some c => ((h.mapCells (ids c) fun p => p.rot cs sn).setVar v c, "ok")
  | op => h.step op

def runStale (h : Heap) : List HeapOp → Heap
  | [] => h
  | op :: rest => runStale (stepStale h op).1 rest

/-- the history `poly; len; scale` -/
def staleHistory : List HeapOp :=
  [.poly 0 [⟨0, 0⟩, ⟨1, 0⟩, ⟨0, 1⟩], .len 0, .scale 0 2 2]

/-- with the pinned behaviour the cache is stale after `poly; len; scale` … -/
theorem stale_counterexample : (runStale Heap.init staleHistory).cacheOK = false := by decide +kernel

/-- … the query answers with the geometry before the scaling, not the current one … -/
theorem stale_answer :
    (runStale Heap.init staleHistory).lenAnswer 0
        = some [[⟨0, 0⟩, ⟨1, 0⟩], [⟨1, 0⟩, ⟨0, 1⟩], [⟨0, 1⟩, ⟨0, 0⟩]]
    ∧ ((runStale Heap.init staleHistory).lookup 0).map (runStale Heap.init staleHistory).geom
        = some [[⟨0, 0⟩, ⟨2, 0⟩], [⟨2, 0⟩, ⟨0, 2⟩], [⟨0, 2⟩, ⟨0, 0⟩]] := by decide +kernel

/-- … whereas the repaired step answers from the current geometry on the same history -/
example : (Heap.init.runOps staleHistory).cacheOK = true
    ∧ (Heap.init.runOps staleHistory).lenAnswer 0
        = some [[⟨0, 0⟩, ⟨2, 0⟩], [⟨2, 0⟩, ⟨0, 2⟩], [⟨0, 2⟩, ⟨0, 0⟩]] := by decide +kernel

/-! ### non-vacuity: a concrete history with sharing, a copy, mutations, queries and a split -/

def demo : List HeapOp :=
  [.poly 0 [⟨0, 0⟩, ⟨4, 0⟩, ⟨0, 4⟩], .len 0, .copy 1 0, .move 1 ⟨10, 0⟩, .len 1, .len 0,
   .split 1 [(0, 1/2)], .scale 0 2 3, .len 0]

/-- the hypotheses of `cacheOK_step` hold along `demo` (they are satisfiable) and a cache is really
filled: variable 0 holds a cached length equal to its current (scaled) geometry -/
example : (Heap.init.runOps demo).sep = true ∧ (Heap.init.runOps demo).cacheOK = true
    ∧ ((Heap.init.runOps demo).lookup 0).map (·.cache)
        = some (some [[⟨0, 0⟩, ⟨8, 0⟩], [⟨8, 0⟩, ⟨0, 12⟩], [⟨0, 12⟩, ⟨0, 0⟩]])
    ∧ (Heap.init.runOps demo).lenAnswer 0
        = some [[⟨0, 0⟩, ⟨8, 0⟩], [⟨8, 0⟩, ⟨0, 12⟩], [⟨0, 12⟩, ⟨0, 0⟩]] := by decide +kernel

end ShapeVerif.C10
