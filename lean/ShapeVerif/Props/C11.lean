/-
C11 — a raising or interrupted call leaves its operands intact.
Informal property: if a non-mutating operation (boolean operator, containment, `==`, integral) raises
or is interrupted at any internal call boundary, every operand still denotes the same shape afterwards
and all object invariants still hold.

Model (Model/Crash.lean, Model/Heap.lean).  After the committed repairs the only side effects such an
operation has on its operand curves are (i) filling the cached signed length (`HeapOp.len v`) and
(ii) refining an operand curve in place by `split` (`HeapOp.split v pairs`, parameters in [0,1] —
`HeapOp.nodesInUnit`, asserted by the code before splitting), each published atomically.  An interrupt
leaves a PREFIX of such a sequence executed: `h.crashAfter ops k = h.runOps (ops.take k)`.

Proved here, for ALL heaps satisfying the invariants (in particular all reachable heaps), ALL effect
sequences, ALL interruption points `k`, ALL variables:
  * `crash_inv`: well-formedness, separation and cache consistency hold in the crashed state
    (for ANY operation sequence, not only query effects);
  * `split_is_value_split`: for a polygon, the in-place heap `split` produces exactly
    `JordanCurve.split` of the old geometry (fresh junction cells = points of the old edges);
  * `crash_safe`: every polygon operand is still bound, still a polygon, and denotes the same region:
    same crossing number and same membership answer at EVERY point, same signed area (hence
    orientation), same moments up to order 2;
  * `crash_safe_exact`: an operand of ANY degree that is not itself refined by the interrupted call has
    exactly the geometry it had (cache fills change nothing visible);
  * `crash_len_answer`: the (possibly freshly cached) signed-length answer is that of the current geometry;
  * `crash_other_objects`: objects not touched by the executed prefix are unchanged (`Heap.frame_runOps`, as in C08);
  * `pinned_not_crash_safe`: the pinned tree's `SimpleShape._contains_shape` (`invert`, query, `invert`)
    is NOT crash safe: interrupted between the two inversions the operand denotes the complement.
Restriction (stated, not silent): region preservation under `split` is for POLYGON operands — the heap
model refines straight edges only (Model/Heap.lean), curved operands are covered by `crash_safe_exact`
when they are not split.  Not proved here: that the repaired Python code performs no other write on its
operands — this is what the fault-injection harness checks on the real code.
-/
import ShapeVerif.Proofs.Crash

namespace ShapeVerif.C11
open ShapeVerif ShapeVerif.Misc Heap

/-! ### the invariants survive every interruption -/

theorem crash_inv {h : Heap} (I : h.Inv) (ops : List HeapOp) (k : Nat) :
    (h.crashAfter ops k).Inv ∧ (h.crashAfter ops k).sep = true ∧ (h.crashAfter ops k).cacheOK = true := by
  have I' : (h.crashAfter ops k).Inv := I.runOps _
  exact ⟨I', (sep_iff _).mpr I'.sep, (cacheOK_iff _).mpr I'.cache⟩

/-! ### the in-place refinement is the value-level split -/

theorem split_is_value_split {h : Heap} (hw : h.WF) (v : Nat) (c : HCurve) (hl : h.lookup v = some c)
    (hp : (h.geom c).isPolygon = true) (pairs : List (Nat × Rat)) :
    ((h.step (.split v pairs)).1.lookup v).map (h.step (.split v pairs)).1.geom
      = some (Jordan.split (h.geom c) pairs) :=
  view_step_split hw hl hp pairs

/-! ### operands denote the same region after an interruption -/

theorem crash_safe {h : Heap} (I : h.Inv) (ops : List HeapOp)
    (hq : ∀ op ∈ ops, op.isQueryEffect = true) (hn : ∀ op ∈ ops, op.nodesInUnit)
    (k w : Nat) (c : HCurve) (hl : h.lookup w = some c) (hp : (h.geom c).isPolygon = true) :
    (h.crashAfter ops k).Inv ∧
    ∃ c', (h.crashAfter ops k).lookup w = some c'
      ∧ ((h.crashAfter ops k).geom c').isPolygon = true
      ∧ (∀ r, memW ((h.crashAfter ops k).geom c') r = memW (h.geom c) r)
      ∧ (∀ r, wind ((h.crashAfter ops k).geom c').edges r = wind (h.geom c).edges r)
      ∧ Jordan.area ((h.crashAfter ops k).geom c') = Jordan.area (h.geom c)
      ∧ (∀ a b, a + b ≤ 2 →
          Jordan.moment ((h.crashAfter ops k).geom c') a b = Jordan.moment (h.geom c) a b) := by
  refine ⟨(crash_inv I ops k).1, ?_⟩
  obtain ⟨j', hj', s⟩ := sameRegion_runOps (ops.take k) I (fun o ho => hq o (List.mem_of_mem_take ho))
    (view_eq_some_iff.mpr ⟨c, hl, rfl⟩) hp
  obtain ⟨c', hl', rfl⟩ := view_eq_some_iff.mp hj'
  exact ⟨c', hl', s.poly, s.mem, s.wind, s.area, s.moment⟩

/-- the same for every heap reachable from the empty heap by any history -/
theorem crash_safe_reachable {h : Heap} (r : h.Reachable) (ops : List HeapOp)
    (hq : ∀ op ∈ ops, op.isQueryEffect = true) (hn : ∀ op ∈ ops, op.nodesInUnit)
    (k w : Nat) (c : HCurve) (hl : h.lookup w = some c) (hp : (h.geom c).isPolygon = true) :
    ∃ c', (h.crashAfter ops k).lookup w = some c'
      ∧ (∀ r, memW ((h.crashAfter ops k).geom c') r = memW (h.geom c) r)
      ∧ Jordan.area ((h.crashAfter ops k).geom c') = Jordan.area (h.geom c) := by
  obtain ⟨_, c', h1, _, h3, _, h5, _⟩ := crash_safe r.inv ops hq hn k w c hl hp
  exact ⟨c', h1, h3, h5⟩

/-- an operand (of ANY degree) that the interrupted call does not refine keeps exactly its geometry;
in particular whenever the executed effects are cache fills only -/
theorem crash_safe_exact {h : Heap} (I : h.Inv) (ops : List HeapOp)
    (hq : ∀ op ∈ ops, op.isQueryEffect = true) (k w : Nat)
    (hns : ∀ op ∈ ops, ∀ pairs, op ≠ .split w pairs) (c : HCurve) (hl : h.lookup w = some c) :
    ∃ c', (h.crashAfter ops k).lookup w = some c' ∧ (h.crashAfter ops k).geom c' = h.geom c :=
  view_eq_some_iff.mp <| (view_sameRegion_runOps I (ops.take k) (fun o ho => hq o (List.mem_of_mem_take ho))
    (fun o ho => hns o (List.mem_of_mem_take ho))).trans (view_eq_some_iff.mpr ⟨c, hl, rfl⟩)

/-- the signed-length query of the crashed state answers from the current geometry: a cache filled
before the interruption is never stale -/
theorem crash_len_answer {h : Heap} (I : h.Inv) (ops : List HeapOp) (k w : Nat) :
    (h.crashAfter ops k).lenAnswer w = ((h.crashAfter ops k).lookup w).map (h.crashAfter ops k).geom :=
  lenAnswer_of_cacheOK (crash_inv I ops k).1.cache w

/-- objects that no executed effect targets are untouched -/
theorem crash_other_objects {h : Heap} (I : h.Inv) (ops : List HeapOp) (k w : Nat)
    (hne : ∀ op ∈ ops, op.target ≠ w) :
    ((h.crashAfter ops k).lookup w).map (h.crashAfter ops k).geom = (h.lookup w).map h.geom :=
  frame_runOps I.wf I.sep (ops.take k) fun o ho => hne o (List.mem_of_mem_take ho)

/-! ### the pinned tree was not crash safe -/

/-- the old `_contains_shape` writes more than query effects -/
theorem old_sequence_not_query_effects (v : Nat) (query : List HeapOp) :
    ¬ ∀ op ∈ oldContainsShape v query, op.isQueryEffect = true := by
  intro h
  have := h (.invert v) (by simp [oldContainsShape])
  cases this

/-- a triangle, the old in-place-invert sequence, interrupted between the two inversions: the operand
now denotes the complement — the point (1,1) inside the triangle is no longer a member and the signed
area has changed sign; the completed sequence restores the operand -/
theorem pinned_not_crash_safe :
    let h := Heap.init.runOps [.poly 0 [⟨0, 0⟩, ⟨4, 0⟩, ⟨0, 4⟩]]
    let ops := oldContainsShape 0 [.len 0]
    (h.lookup 0).map (fun c => (memW (h.geom c) ⟨1, 1⟩, Jordan.area (h.geom c))) = some (true, 8)
    ∧ ((h.crashAfter ops 1).lookup 0).map
        (fun c => (memW ((h.crashAfter ops 1).geom c) ⟨1, 1⟩, Jordan.area ((h.crashAfter ops 1).geom c)))
        = some (false, -8)
    ∧ ((h.crashAfter ops 2).lookup 0).map
        (fun c => (memW ((h.crashAfter ops 2).geom c) ⟨1, 1⟩, Jordan.area ((h.crashAfter ops 2).geom c)))
        = some (false, -8)
    ∧ ((h.crashAfter ops 3).lookup 0).map
        (fun c => (memW ((h.crashAfter ops 3).geom c) ⟨1, 1⟩, Jordan.area ((h.crashAfter ops 3).geom c)))
        = some (true, 8) := by
  decide +kernel

/-- hence the conclusion of `crash_safe` fails for the old sequence -/
theorem pinned_violates_crash_safe :
    let h := Heap.init.runOps [.poly 0 [⟨0, 0⟩, ⟨4, 0⟩, ⟨0, 4⟩]]
    ¬ ∀ k c c', h.lookup 0 = some c → (h.crashAfter (oldContainsShape 0 [.len 0]) k).lookup 0 = some c' →
        ∀ r, memW ((h.crashAfter (oldContainsShape 0 [.len 0]) k).geom c') r = memW (h.geom c) r := by
  intro h H
  obtain ⟨h1, h2, _, _⟩ := pinned_not_crash_safe
  -- both look-ups succeed (the pairs computed there are `some`), so `H` applies at `k = 1` and the point (1,1)
  obtain ⟨c, hc, e1⟩ := Option.map_eq_some_iff.mp h1
  obtain ⟨c', hc', e2⟩ := Option.map_eq_some_iff.mp h2
  have e := H 1 c c' hc hc' ⟨1, 1⟩
  rw [(Prod.mk.inj e1).1, (Prod.mk.inj e2).1] at e
  cases e

/-! ### non-vacuity -/

/-- a triangle `0`, a square `1`; the effects of a containment query: cache fills and refinements -/
def demoHeap : Heap :=
  Heap.init.runOps [.poly 0 [⟨0, 0⟩, ⟨4, 0⟩, ⟨0, 4⟩], .poly 1 [⟨1, 1⟩, ⟨2, 1⟩, ⟨2, 2⟩, ⟨1, 2⟩]]
def demoEffects : List HeapOp :=
  [.len 0, .split 0 [(0, 1/2), (1, 1/4), (1, 3/4)], .len 1, .split 1 [(2, 1/2)], .len 0]

example : (∀ op ∈ demoEffects, op.isQueryEffect = true) ∧ (∀ op ∈ demoEffects, op.nodesInUnit) := by
  refine ⟨by decide, ?_⟩
  intro op hop
  simp only [demoEffects, List.mem_cons, List.not_mem_nil, or_false] at hop
  rcases hop with rfl | rfl | rfl | rfl | rfl <;> simp only [HeapOp.nodesInUnit] <;> intro it hit <;>
    simp only [List.mem_cons, List.not_mem_nil, or_false] at hit
  · rcases hit with rfl | rfl | rfl <;> constructor <;> decide +kernel
  · subst hit; constructor <;> decide +kernel

example : demoHeap.Inv := Reachable.inv ⟨_, rfl⟩

/-- interrupted after two effects, the triangle really has been refined (6 edges instead of 3, cache
refilled later) — and still has area 8 and still contains (1,1) -/
example :
    ((demoHeap.crashAfter demoEffects 2).lookup 0).map
      (fun c => (((demoHeap.crashAfter demoEffects 2).geom c).length,
        Jordan.area ((demoHeap.crashAfter demoEffects 2).geom c),
        memW ((demoHeap.crashAfter demoEffects 2).geom c) ⟨1, 1⟩)) = some (6, 8, true)
    ∧ (demoHeap.lookup 0).map (fun c => (demoHeap.geom c).length) = some 3 := by
  decide +kernel

end ShapeVerif.C11
