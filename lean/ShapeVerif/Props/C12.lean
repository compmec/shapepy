/-
C12 (and the geometric half of C09) — covariance of the exact predicates under translation and
positive (axis) scaling, and of the area under exact rotation.
Quantifiers: ALL rational points / factors; polygons are ALL lists of two-point segments
(`isPolygon`), closed polygons are `Jordan.fromVertices vs` for ALL vertex lists.
-/
import ShapeVerif.Proofs.Geom
import ShapeVerif.Proofs.AffineIntegral
import ShapeVerif.Gen.Tables

namespace ShapeVerif.C12
open ShapeVerif ShapeVerif.Geom

/-! ### the cross product of differences -/
theorem cross_translate (a b c e d : Pt) :
    Pt.cross ((a.move d) - (b.move d)) ((c.move d) - (e.move d)) = Pt.cross (a - b) (c - e) :=
  Pt.cross_sub_move a b c e d

theorem cross_scale (a b c e : Pt) (sx sy : Rat) :
    Pt.cross ((a.scale sx sy) - (b.scale sx sy)) ((c.scale sx sy) - (e.scale sx sy))
      = sx * sy * Pt.cross (a - b) (c - e) := Pt.cross_sub_scale a b c e sx sy

theorem cross_scale_uniform (a b c e : Pt) (k : Rat) :
    Pt.cross ((a.scale k k) - (b.scale k k)) ((c.scale k k) - (e.scale k k))
      = k * k * Pt.cross (a - b) (c - e) := cross_scale a b c e k k

theorem cross_rot (a b c e : Pt) (cs sn : Rat) :
    Pt.cross ((a.rot cs sn) - (b.rot cs sn)) ((c.rot cs sn) - (e.rot cs sn))
      = (cs * cs + sn * sn) * Pt.cross (a - b) (c - e) := Pt.cross_sub_rot a b c e cs sn

/-! ### `Intersection.lines` returns the same parameters -/
theorem linesInter_translate (a0 a1 b0 b1 d : Pt) :
    linesInter (a0.move d) (a1.move d) (b0.move d) (b1.move d) = linesInter a0 a1 b0 b1 :=
  linesInter_map_move a0 a1 b0 b1 d

theorem linesInter_scale (a0 a1 b0 b1 : Pt) (sx sy : Rat) (hx : sx ≠ 0) (hy : sy ≠ 0) :
    linesInter (a0.scale sx sy) (a1.scale sx sy) (b0.scale sx sy) (b1.scale sx sy)
      = linesInter a0 a1 b0 b1 := Geom.linesInter_map_scale a0 a1 b0 b1 sx sy hx hy

theorem linesInter_scale_uniform (a0 a1 b0 b1 : Pt) (k : Rat) (hk : k ≠ 0) :
    linesInter (a0.scale k k) (a1.scale k k) (b0.scale k k) (b1.scale k k) = linesInter a0 a1 b0 b1 :=
  Geom.linesInter_map_scale a0 a1 b0 b1 k k hk hk

/-! ### the ray-crossing predicate and the crossing number -/
theorem below_translate (e : Edge) (d r : Pt) :
    (⟨e.p.move d, e.q.move d⟩ : Edge).below (r.move d) = e.below r :=
  Edge.below_map (fun e => contrib_map_move e d r) e
theorem dir_translate (e : Edge) (d : Pt) : (⟨e.p.move d, e.q.move d⟩ : Edge).dir = e.dir :=
  Edge.dir_map (Pt.move_x_le d) e

theorem below_scale (e : Edge) (sx sy : Rat) (hx : 0 < sx) (hy : 0 < sy) (r : Pt) :
    (⟨e.p.scale sx sy, e.q.scale sx sy⟩ : Edge).below (r.scale sx sy) = e.below r :=
  Edge.below_map (fun e => contrib_map_scale e sx sy hx hy r) e
theorem dir_scale (e : Edge) (sx sy : Rat) (hx : 0 < sx) :
    (⟨e.p.scale sx sy, e.q.scale sx sy⟩ : Edge).dir = e.dir := Edge.dir_map (Pt.scale_x_le hx sy) e

theorem wind_translate (es : List Edge) (d r : Pt) :
    wind (es.map fun e => ⟨e.p.move d, e.q.move d⟩) (r.move d) = wind es r :=
  wind_map (·.move d) es r (fun e => contrib_map_move e d r)

theorem wind_scale (es : List Edge) (sx sy : Rat) (hx : 0 < sx) (hy : 0 < sy) (r : Pt) :
    wind (es.map fun e => ⟨e.p.scale sx sy, e.q.scale sx sy⟩) (r.scale sx sy) = wind es r :=
  wind_map (·.scale sx sy) es r (fun e => contrib_map_scale e sx sy hx hy r)

/-! ### areas -/
/-- scaling multiplies the area of every polygon (closed or not) by `sx·sy` -/
theorem area_scale (j : Jordan) (hj : j.isPolygon = true) (sx sy : Rat) :
    Jordan.area (Jordan.map (·.scale sx sy) j) = sx * sy * Jordan.area j := Jordan.area_map_scale j sx sy

/-- translation of a polygon: the area changes by `d.x · ∮ dy` -/
theorem area_translate_gen (j : Jordan) (hj : j.isPolygon = true) (d : Pt) :
    Jordan.area (Jordan.map (·.move d) j) = Jordan.area j + d.x * jordanExactVertical j 0 0 :=
  Jordan.area_map_move j d

/-- … hence is unchanged as soon as `∮ dy = 0`, which holds for every closed curve -/
theorem area_translate (j : Jordan) (hj : j.isPolygon = true) (hc : jordanExactVertical j 0 0 = 0) (d : Pt) :
    Jordan.area (Jordan.map (·.move d) j) = Jordan.area j := by
  rw [Jordan.area_map_move, hc, mul_zero, add_zero]

/-- `∮ dy = 0` around an exactly closed polygon (every end point IS the next start point, cyclically) -/
theorem closed_of_exactClosed (j : Jordan) (hj : j.isPolygon = true) (h : ExactClosed j) :
    jordanExactVertical j 0 0 = 0 :=
  jordanExactVertical_y_pow_closed j (fun p hp => by rw [h p hp]) 0

/-! ### exactly closed polygons (every end point IS the next start point, cyclically); `fromVertices` builds one -/

theorem fromVertices_exactClosed (vs : List Pt) : ExactClosed (Jordan.fromVertices vs) :=
  exactClosed_fromVertices vs

theorem closed_fromVertices (vs : List Pt) : jordanExactVertical (Jordan.fromVertices vs) 0 0 = 0 :=
  closed_of_exactClosed _ (fromVertices_polygon vs) (fromVertices_exactClosed vs)

theorem area_translate_closed (j : Jordan) (hj : j.isPolygon = true) (h : ExactClosed j) (d : Pt) :
    Jordan.area (Jordan.map (·.move d) j) = Jordan.area j :=
  area_translate j hj (closed_of_exactClosed j hj h) d

theorem area_translate_fromVertices (vs : List Pt) (d : Pt) :
    Jordan.area (Jordan.fromVertices (vs.map (·.move d))) = Jordan.area (Jordan.fromVertices vs) := by
  rw [← fromVertices_map]
  exact area_translate_closed _ (fromVertices_polygon vs) (fromVertices_exactClosed vs) d

theorem area_rot_closed (j : Jordan) (hj : j.isPolygon = true) (h : ExactClosed j) (c s : Rat)
    (hcs : c * c + s * s = 1) : Jordan.area (Jordan.map (·.rot c s) j) = Jordan.area j := by
  rw [Jordan.area_map_rot j h, hcs, one_mul]

/-- exact rotation of a closed polygon with ANY number of vertices -/
theorem area_rot (vs : List Pt) (c s : Rat) (h : c * c + s * s = 1) :
    Jordan.area (Jordan.fromVertices (vs.map (·.rot c s))) = Jordan.area (Jordan.fromVertices vs) := by
  rw [← fromVertices_map]
  exact area_rot_closed _ (fromVertices_polygon vs) (fromVertices_exactClosed vs) c s h

theorem area_rot_triangle (p q r : Pt) (c s : Rat) (h : c * c + s * s = 1) :
    Jordan.area (Jordan.fromVertices [p.rot c s, q.rot c s, r.rot c s])
      = Jordan.area (Jordan.fromVertices [p, q, r]) := area_rot [p, q, r] c s h
theorem area_rot_quad (p q r t : Pt) (c s : Rat) (h : c * c + s * s = 1) :
    Jordan.area (Jordan.fromVertices [p.rot c s, q.rot c s, r.rot c s, t.rot c s])
      = Jordan.area (Jordan.fromVertices [p, q, r, t]) := area_rot [p, q, r, t] c s h

/-! ### membership by winding number -/
theorem memW_scale (j : Jordan) (hj : j.isPolygon = true) (sx sy : Rat) (hx : 0 < sx) (hy : 0 < sy) (r : Pt) :
    memW (Jordan.map (·.scale sx sy) j) (r.scale sx sy) = memW j r :=
  memW_map _ j hj r (mul_pos hx hy) (fun e => contrib_map_scale e sx sy hx hy r) (Jordan.area_map_scale j sx sy)

theorem memW_translate (j : Jordan) (hj : j.isPolygon = true) (hc : jordanExactVertical j 0 0 = 0) (d r : Pt) :
    memW (Jordan.map (·.move d) j) (r.move d) = memW j r :=
  memW_map _ j hj r one_pos (fun e => contrib_map_move e d r) (by rw [area_translate j hj hc d, one_mul])

theorem memW_translate_fromVertices (vs : List Pt) (d r : Pt) :
    memW (Jordan.fromVertices (vs.map (·.move d))) (r.move d) = memW (Jordan.fromVertices vs) r := by
  rw [← fromVertices_map]
  exact memW_translate _ (fromVertices_polygon vs) (closed_fromVertices vs) d r

theorem memW_scale_fromVertices (vs : List Pt) (sx sy : Rat) (hx : 0 < sx) (hy : 0 < sy) (r : Pt) :
    memW (Jordan.fromVertices (vs.map (·.scale sx sy))) (r.scale sx sy) = memW (Jordan.fromVertices vs) r := by
  rw [← fromVertices_map]
  exact memW_scale _ (fromVertices_polygon vs) sx sy hx hy r

/-! ### any exactly closed polygon (every end point IS the next start point, cyclically) -/
theorem memW_translate_closed (j : Jordan) (hj : j.isPolygon = true) (h : ExactClosed j) (d r : Pt) :
    memW (Jordan.map (·.move d) j) (r.move d) = memW j r :=
  memW_translate j hj (closed_of_exactClosed j hj h) d r

/-! ### non-vacuity -/
example : memW (Jordan.fromVertices [⟨0,0⟩, ⟨4,0⟩, ⟨0,3⟩]) ⟨1,1⟩ = true := by decide +kernel
example : memW (Jordan.fromVertices (([⟨0,0⟩, ⟨4,0⟩, ⟨0,3⟩] : List Pt).map (·.move ⟨5/2,-7⟩))) ((⟨1,1⟩ : Pt).move ⟨5/2,-7⟩) = true := by
  decide +kernel
example : Jordan.area (Jordan.fromVertices [⟨0,0⟩, ⟨4,0⟩, ⟨0,3⟩]) = 6 := by decide +kernel
example : Jordan.area (Jordan.fromVertices (([⟨0,0⟩, ⟨4,0⟩, ⟨0,3⟩] : List Pt).map (·.rot (3/5) (4/5)))) = 6 := by decide +kernel
example : linesInter ((⟨0,0⟩ : Pt).scale 3 (1/2)) ((⟨2,0⟩ : Pt).scale 3 (1/2)) ((⟨1,-1⟩ : Pt).scale 3 (1/2))
    ((⟨1,1⟩ : Pt).scale 3 (1/2)) = some (1/2, 1/2) := by decide +kernel

/-! ### the tolerances of the source are ABSOLUTE constants (regenerated from the source on every run) -/

/-- every tolerance literal the properties mention is the absolute constant of the model: point equality 1e-9, box margins 1e-6,
split end filter 1e-6, on-curve distance 1e-6, degree-reduction error 1e-9.  None of them scales with the drawing: this is the
mechanism behind findings K1 and K6 (DESIGN §14.6). -/
theorem tolerances_are_absolute_constants :
    Gen.pointEqTol = some tol9 ∧ Gen.pointEqTolMin = some tol9 ∧ Gen.boxDx = some tol6 ∧ Gen.boxDy = some tol6 ∧
    Gen.splitEndTol = some tol6 ∧ Gen.splitEndTolMin = some tol6 ∧ Gen.onCurveTol = some tol6 ∧ Gen.cleanTol = some tol9 :=
  ⟨rfl, rfl, rfl, rfl, rfl, rfl, rfl, rfl⟩

end ShapeVerif.C12
