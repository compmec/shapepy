/-
C12b — the comparison kernels of polygon.py as written in the SOURCE (regenerated into `Gen/Arith.lean` on every run):
which of them are unit-free and which are not.

 * `Intersection.lines` (exact solver for straight pairs) has no tolerance: translation, non-zero scaling and rotation
   of all four end points leave the reported parameters unchanged — stated here about the GENERATED function.
 * `Point2D.__eq__`, `Box.__contains__` compare against ABSOLUTE constants (1e-9, 1e-6): they equal the model's
   `Pt.eqTol`, `Box.containsTol`, and explicit witnesses show that their verdict changes under uniform scaling —
   the mechanism behind findings K1 / K6 (DESIGN §14.6); the theorems say where the unit-dependence of the code comes
   from and where it cannot come from.
 * `Box.__and__` (`is None` ⇔ the boxes are disjoint) has no margin: exactly scale-free.
-/
import ShapeVerif.Props.C12
import ShapeVerif.Proofs.SourceBridges

namespace ShapeVerif.C12
open ShapeVerif

/-- `Point2D.__eq__` as written in the source is the model's absolute 1e-9 comparison -/
theorem source_ptEq_is_model : Gen.ptEq = Pt.eqTol := Source.ptEq_is_model

/-- `Box.__contains__` as written in the source is the model's test with absolute 1e-6 margins -/
theorem source_boxContains_is_model (b : Box) (p : Pt) : Gen.boxContains b.lo b.hi p = b.containsTol p :=
  Source.boxContains_is_model b p

/-- `Box.__and__(…) is None` as written in the source is the model's margin-free disjointness test -/
theorem source_boxDisjoint_is_model (a b : Box) : Gen.boxDisjoint a.lo a.hi b.lo b.hi = a.disjoint b :=
  Source.boxDisjoint_is_model a b

/-- the exact line solver of the source is invariant under translation … -/
theorem source_lines_translate (a0 a1 b0 b1 d : Pt) :
    Gen.linesInter (a0.move d) (a1.move d) (b0.move d) (b1.move d) = Gen.linesInter a0 a1 b0 b1 := by
  rw [Source.linesInter_is_model]; exact linesInter_translate a0 a1 b0 b1 d

/-- … under every non-zero (even non-uniform) scaling … -/
theorem source_lines_scale (a0 a1 b0 b1 : Pt) (sx sy : Rat) (hx : sx ≠ 0) (hy : sy ≠ 0) :
    Gen.linesInter (a0.scale sx sy) (a1.scale sx sy) (b0.scale sx sy) (b1.scale sx sy) = Gen.linesInter a0 a1 b0 b1 := by
  rw [Source.linesInter_is_model]; exact linesInter_scale a0 a1 b0 b1 sx sy hx hy

/-- … and under every exact rotation (any similarity `c² + s² ≠ 0`) -/
theorem source_lines_rot (a0 a1 b0 b1 : Pt) (c s : Rat) (h : c * c + s * s ≠ 0) :
    Gen.linesInter (a0.rot c s) (a1.rot c s) (b0.rot c s) (b1.rot c s) = Gen.linesInter a0 a1 b0 b1 := by
  rw [Source.linesInter_is_model]; exact Geom.linesInter_map_rot a0 a1 b0 b1 c s h

/-- box disjointness of the source is invariant under uniform positive scaling (no margin involved) -/
theorem source_boxDisjoint_scale (alo ahi blo bhi : Pt) (k : Rat) (hk : 0 < k) :
    Gen.boxDisjoint (alo.scale k k) (ahi.scale k k) (blo.scale k k) (bhi.scale k k) = Gen.boxDisjoint alo ahi blo bhi := by
  rw [source_boxDisjoint_is_model ⟨_, _⟩ ⟨_, _⟩, source_boxDisjoint_is_model ⟨alo, ahi⟩ ⟨blo, bhi⟩]
  exact Box.disjoint_scale alo ahi blo bhi k k hk hk

/-- `Point2D.__eq__` is NOT unit-free: two points 1e-9/2 apart are "equal", the same drawing a million times larger is not -/
theorem source_ptEq_not_scale_free :
    ∃ (p q : Pt) (k : Rat), 0 < k ∧ Gen.ptEq p q = true ∧ Gen.ptEq (p.scale k k) (q.scale k k) = false :=
  ⟨⟨0, 0⟩, ⟨1 / 4000000000, 0⟩, 1000000, by decide +kernel⟩

/-- `Box.__contains__` is NOT unit-free either: its 1e-6 margin admits a point at distance 5e-7 from a unit box, and rejects
the corresponding point of the same drawing scaled by 1000 -/
theorem source_boxContains_not_scale_free :
    ∃ (lo hi p : Pt) (k : Rat), 0 < k ∧ Gen.boxContains lo hi p = true ∧
      Gen.boxContains (lo.scale k k) (hi.scale k k) (p.scale k k) = false :=
  ⟨⟨0, 0⟩, ⟨1, 1⟩, ⟨1 + 1 / 2000000, 1 / 2⟩, 1000, by decide +kernel⟩

end ShapeVerif.C12
