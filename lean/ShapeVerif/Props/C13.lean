/-
C13 — coordinates are exact rationals: `Point2D(x, y)` stores `Fraction(x).limit_denominator(10**9)`,
which is the identity on every rational of denominator ≤ 10^9, and the affine operations are the exact
rational formulas.
-/
import ShapeVerif.Proofs.Plane
import ShapeVerif.Proofs.LimitDen
import ShapeVerif.Gen.Tables

namespace ShapeVerif.C13
open ShapeVerif ShapeVerif.Geom

/-- `limit_denominator` returns its argument unchanged when the denominator is already small enough -/
theorem limitDenominator_id (r : Rat) (maxd : Nat) (h : r.den ≤ maxd) : limitDenominator r maxd = r := by
  unfold limitDenominator; rw [if_pos h]

/-- the bound is the code's `10**9` -/
theorem maxDen_eq : maxDen = 10 ^ 9 := by decide

/-- coordinates with denominators ≤ 10^9 are stored unchanged -/
theorem mkPoint_id (x y : Rat) (hx : x.den ≤ maxDen) (hy : y.den ≤ maxDen) : mkPoint x y = ⟨x, y⟩ := by
  unfold mkPoint; rw [limitDenominator_id x _ hx, limitDenominator_id y _ hy]

/-- in particular integer coordinates -/
theorem mkPoint_int (m n : Int) : mkPoint (m : Rat) (n : Rat) = ⟨(m : Rat), (n : Rat)⟩ := by
  apply mkPoint_id <;> simp [maxDen]

/-- `limit_denominator` is idempotent on its fixed points, hence so is `mkPoint` on stored points -/
theorem mkPoint_idem (x y : Rat) (hx : x.den ≤ maxDen) (hy : y.den ≤ maxDen) :
    mkPoint (mkPoint x y).x (mkPoint x y).y = mkPoint x y := by
  rw [mkPoint_id x y hx hy, mkPoint_id x y hx hy]

/-- the result of `limit_denominator(maxd)` has a denominator ≤ `maxd` (loop invariants of the
continued-fraction iteration: after the first step `0 ≤ q0`, `1 ≤ q1 ≤ maxd`, `0 ≤ d < n`) -/
theorem limitDenominator_den_le (r : Rat) (maxd : Nat) (h1 : 1 ≤ maxd) :
    (limitDenominator r maxd).den ≤ maxd := Geom.limitDenominator_den_le r maxd h1

/-- every stored coordinate has a denominator ≤ 10^9, whatever rational was passed in -/
theorem mkPoint_den_le (x y : Rat) : (mkPoint x y).x.den ≤ 10 ^ 9 ∧ (mkPoint x y).y.den ≤ 10 ^ 9 := by
  rw [← maxDen_eq]
  exact ⟨Geom.limitDenominator_den_le x maxDen (by decide), Geom.limitDenominator_den_le y maxDen (by decide)⟩

/-- storing is idempotent for EVERY rational input -/
theorem mkPoint_idem_all (x y : Rat) : mkPoint (mkPoint x y).x (mkPoint x y).y = mkPoint x y := by
  have h := mkPoint_den_le x y
  rw [← maxDen_eq] at h
  exact mkPoint_id _ _ h.1 h.2

/-! the exact formulas the code must reproduce -/
theorem lerp_formula (a b : Pt) (t : Rat) : lerp a b t = ⟨a.x + t * (b.x - a.x), a.y + t * (b.y - a.y)⟩ := rfl
theorem move_formula (p v : Pt) : p.move v = ⟨p.x + v.x, p.y + v.y⟩ := rfl
theorem scale_formula (p : Pt) (sx sy : Rat) : p.scale sx sy = ⟨p.x * sx, p.y * sy⟩ := rfl
theorem rot_formula (p : Pt) (c s : Rat) : p.rot c s = ⟨c * p.x - s * p.y, s * p.x + c * p.y⟩ := rfl

theorem lerp_zero (a b : Pt) : lerp a b 0 = a := Geom.lerp_zero a b
theorem lerp_one (a b : Pt) : lerp a b 1 = b := Geom.lerp_one a b
theorem lerp_half (a b : Pt) : lerp a b (1/2) = midpoint a b := by
  simp only [lerp, midpoint, Pt.mk.injEq]; constructor <;> ring
/-- the convex-combination form -/
theorem lerp_convex (a b : Pt) (t : Rat) : lerp a b t = ⟨(1 - t) * a.x + t * b.x, (1 - t) * a.y + t * b.y⟩ := by
  simp only [lerp, Pt.mk.injEq]; constructor <;> ring
/-- re-parameterising a straight piece: a point of a sub-segment is a point of the segment -/
theorem lerp_lerp (a b : Pt) (s t u : Rat) : lerp (lerp a b s) (lerp a b t) u = lerp a b (s + u * (t - s)) := by
  simp only [lerp, Pt.mk.injEq]; constructor <;> ring

/-- translations and scalings compose exactly and are exactly invertible: no drift -/
theorem move_move (p d e : Pt) : (p.move d).move e = p.move (d + e) := Pt.move_move p d e
theorem move_back (p d : Pt) : (p.move d).move (Pt.neg d) = p := Pt.move_move_neg p d
theorem scale_back (p : Pt) (sx sy : Rat) (hx : sx ≠ 0) (hy : sy ≠ 0) : (p.scale sx sy).scale (1/sx) (1/sy) = p :=
  Pt.scale_scale_inv p sx sy hx hy
theorem rot_back (p : Pt) (c s : Rat) (h : c * c + s * s = 1) : (p.rot c s).rot c (-s) = p :=
  Pt.rot_rot_neg p c s h

/-! ### non-vacuity: the continued-fraction branch on concrete numbers (values of CPython) -/
example : limitDenominator (355/113) 100 = 311/99 := by decide +kernel
example : limitDenominator (3141592653589793/1000000000000000) 1000 = 355/113 := by decide +kernel
example : limitDenominator (1/3) 1000000000 = 1/3 := by decide +kernel
example : limitDenominator (1/3 + 1/100000000000) 1000000000 = 1/3 := by decide +kernel
example : mkPoint (1/3) (-7/2) = ⟨1/3, -7/2⟩ := by decide +kernel
example : lerp ⟨0,1⟩ ⟨3,-2⟩ (1/3) = ⟨1, 0⟩ := by decide +kernel

/-- the bound passed to `limit_denominator` in `Point2D.__init__` (regenerated from the source) is the integer 10^9 of the model -/
theorem translated_max_denominator : Gen.maxDenominator = some ((maxDen : Nat) : Rat) := by
  simp [Gen.maxDenominator, maxDen]

end ShapeVerif.C13
