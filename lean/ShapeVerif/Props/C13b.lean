/-
C13b — the exact kernels of polygon.py as written in the SOURCE (regenerated into `Gen/Arith.lean` on every run) are
polynomial maps over the rationals: `Point2D.inner`, `Point2D.cross`, `Point2D.move`, `Point2D.scale` contain no
division, no rounding and no float literal, so rational operands give the exact rational result (the generated terms have
type `Rat` and are proved equal to the model's closed forms on ALL inputs).
-/
import ShapeVerif.Proofs.Plane
import ShapeVerif.Proofs.SourceBridges

namespace ShapeVerif.C13
open ShapeVerif

theorem source_inner_is_model : Gen.inner = Pt.inner := Source.inner_is_model

theorem source_cross_is_model : Gen.cross = Pt.cross := Source.cross_is_model

theorem source_move_is_model : Gen.ptMove = Pt.move := Source.ptMove_is_model

theorem source_scale_is_model : Gen.ptScale = Pt.scale := Source.ptScale_is_model

/-- closed forms of the source kernels, for all rational points -/
theorem source_inner_formula (p q : Pt) : Gen.inner p q = p.x * q.x + p.y * q.y := by
  rw [source_inner_is_model]; rfl
theorem source_cross_formula (p q : Pt) : Gen.cross p q = p.x * q.y - p.y * q.x := by
  rw [source_cross_is_model]; rfl

/-- the cross product of the source is antisymmetric and vanishes on parallel vectors; the inner product is symmetric -/
theorem source_cross_antisymm (p q : Pt) : Gen.cross p q = - Gen.cross q p := by
  rw [source_cross_formula, source_cross_formula]; ring
theorem source_cross_self (p : Pt) : Gen.cross p p = 0 := by
  rw [source_cross_formula]; ring
theorem source_inner_symm (p q : Pt) : Gen.inner p q = Gen.inner q p := by
  rw [source_inner_formula, source_inner_formula]; ring
theorem source_inner_self_nonneg (p : Pt) : 0 ≤ Gen.inner p p := by
  rw [source_inner_formula]; exact add_nonneg (mul_self_nonneg _) (mul_self_nonneg _)

/-- Lagrange's identity: |p|²|q|² = ⟨p,q⟩² + (p×q)² — the identity behind the projection / distance tests -/
theorem source_lagrange_identity (p q : Pt) :
    Gen.inner p p * Gen.inner q q = Gen.inner p q ^ 2 + Gen.cross p q ^ 2 := by
  simp only [source_inner_formula, source_cross_formula]; ring

/-- the crossing parameters of two straight edges AS COMPUTED BY THE SOURCE are the exact rational solution, decided by exact comparisons
(`denom ≠ 0`, `0 ≤ u ≤ 1`) — no tolerance, no rounding: whenever the source reports `(u, v)` the point `A(u) = B(v)` holds exactly, and every
exact transversal crossing is reported (restated from C14b so that a tolerance creeping into `Intersection.lines` also breaks C13) -/
theorem source_crossing_parameters_exact (a0 a1 b0 b1 : Pt) (u v : Rat) :
    Gen.linesInter a0 a1 b0 b1 = some (u, v) ↔
      Pt.cross (a1 - a0) (b1 - b0) ≠ 0 ∧ lerp a0 a1 u = lerp b0 b1 v ∧ 0 ≤ u ∧ u ≤ 1 ∧ 0 ≤ v ∧ v ≤ 1 := by
  rw [Source.linesInter_is_model]; exact Geom.linesInter_iff a0 a1 b0 b1 u v

/-- … and they do not depend on the unit of length -/
theorem source_crossing_parameters_scale_free (a0 a1 b0 b1 : Pt) (k : Rat) (hk : k ≠ 0) :
    Gen.linesInter (a0.scale k k) (a1.scale k k) (b0.scale k k) (b1.scale k k) = Gen.linesInter a0 a1 b0 b1 := by
  rw [Source.linesInter_is_model]
  exact Geom.linesInter_map_scale a0 a1 b0 b1 k k hk hk

example : Gen.cross ⟨1/3, 2⟩ ⟨5, -7/2⟩ = -67/6 := by decide +kernel
example : Gen.inner ⟨1/3, 2⟩ ⟨5, -7/2⟩ = -16/3 := by decide +kernel

end ShapeVerif.C13
