/-
C13c — how far the constructor of `Point2D` can move a rational coordinate (the quantitative side of finding K5).

`Point2D.__init__` stores `Fraction(x).limit_denominator(10**9)`.  C13 proves: denominators ≤ 10⁹ are stored unchanged and the
stored denominator never exceeds 10⁹.  Here (Proofs/LimitDen.lean: loop invariants of CPython's continued-fraction algorithm —
`N = n·p1 + d·p0`, `D = n·q1 + d·q0`, `p1·q0 − p0·q1 = ±1`, fuel never exhausted) the ERROR of every other input is bounded:
 * `limit_denominator_error`   |limit_denominator(r, N) − r| ≤ 1/N (`LimitDen.ld_core`: ≤ 1/(2N)), all rationals r (negative too), all N ≥ 1;
 * `limit_denominator_error_half`  … ≤ 1/(2q) with q the denominator of the result;
 * `constructor_error`  each stored coordinate is within 1e-9 of the given one;
 * `limit_denominator_not_best_bound` — the classical bound 1/(q·N) for convergents does NOT hold for the semiconvergent the
   algorithm may return (kernel-checked counterexample r = 1/19, N = 10), and holds when the convergent is returned.
So a single constructor call is harmless for `==` (tolerance 1e-9) but, since every `Point2D` arithmetic step constructs a new
point, errors of this ABSOLUTE size accumulate and are relatively large for small drawings — the mechanism of K5 and of the
rounded regime of C12.
-/
import ShapeVerif.Proofs.LimitDen

namespace ShapeVerif.C13
open ShapeVerif

theorem limit_denominator_error (r : Rat) (maxd : Nat) (h1 : 1 ≤ maxd) :
    absR (limitDenominator r maxd - r) ≤ 1 / (maxd : Rat) := by
  rw [le_div_iff₀ (by exact_mod_cast h1)]
  linarith [(LimitDen.ld_core r maxd h1).2.1,
    mul_nonneg (LimitDen.absR_nonneg (limitDenominator r maxd - r)) (Nat.cast_nonneg (α := Rat) maxd)]

theorem limit_denominator_error_half (r : Rat) (maxd : Nat) (h1 : 1 ≤ maxd) :
    absR (limitDenominator r maxd - r) * ((limitDenominator r maxd).den : Rat) * 2 ≤ 1 := by
  obtain ⟨hden, herr, -⟩ := LimitDen.ld_core r maxd h1
  have := mul_le_mul_of_nonneg_left (Nat.cast_le (α := Rat).mpr hden)
    (LimitDen.absR_nonneg (limitDenominator r maxd - r))
  linarith

/-- each coordinate stored by `Point2D(x, y)` is within 1e-9 of the coordinate given -/
theorem constructor_error (x y : Rat) :
    absR ((mkPoint x y).x - x) ≤ 1 / 1000000000 ∧ absR ((mkPoint x y).y - y) ≤ 1 / 1000000000 := by
  have hx := limit_denominator_error x maxDen (by decide)
  have hy := limit_denominator_error y maxDen (by decide)
  have hm : ((maxDen : Nat) : Rat) = 1000000000 := by simp [maxDen]
  rw [hm] at hx hy
  exact ⟨hx, hy⟩

/-- the convergent bound 1/(q·N) holds when the algorithm returns the last convergent (or `r` itself) … -/
theorem limit_denominator_convergent_bound (r : Rat) (maxd : Nat) (h1 : 1 ≤ maxd) (hconv : ldPicksConvergent r maxd) :
    absR (limitDenominator r maxd - r) * ((limitDenominator r maxd).den : Rat) * (maxd : Rat) ≤ 1 :=
  (LimitDen.ld_core r maxd h1).2.2 hconv

/-- … and fails for the semiconvergent branch: limit_denominator(1/19, 10) = 1/10, error · q · N = 90/19 > 1 -/
theorem limit_denominator_not_best_bound :
    ¬ (absR (limitDenominator (1 / 19) 10 - 1 / 19) * ((limitDenominator (1 / 19) 10).den : Rat) * (10 : Rat) ≤ 1) := by
  decide +kernel

example : limitDenominator (1 / 19) 10 = 1 / 10 := by decide +kernel
example : limitDenominator (-355 / 113) 10 = -22 / 7 := by decide +kernel

end ShapeVerif.C13
