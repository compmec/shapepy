/-
C14 — intersection of two straight segments (`Intersection.lines`) and the flag filters of
`JordanCurve.intersection`.
Quantifiers: ALL rational end points / parameters, ALL lists of segments.
-/
import ShapeVerif.Proofs.Plane
import ShapeVerif.Gen.Tables

namespace ShapeVerif.C14
open ShapeVerif ShapeVerif.Geom

/-- soundness: a reported pair `(u, v)` is a common point `A(u) = B(v)` with both parameters in [0,1] -/
theorem linesInter_sound (a0 a1 b0 b1 : Pt) (u v : Rat)
    (h : linesInter a0 a1 b0 b1 = some (u, v)) :
    lerp a0 a1 u = lerp b0 b1 v ∧ 0 ≤ u ∧ u ≤ 1 ∧ 0 ≤ v ∧ v ≤ 1 :=
  ((Geom.linesInter_iff a0 a1 b0 b1 u v).mp h).2

/-- completeness + uniqueness: every transversal crossing inside both segments is reported, with
exactly its parameters -/
theorem linesInter_complete (a0 a1 b0 b1 : Pt) (u v : Rat)
    (hD : Pt.cross (a1 - a0) (b1 - b0) ≠ 0) (h : lerp a0 a1 u = lerp b0 b1 v)
    (hu : 0 ≤ u ∧ u ≤ 1) (hv : 0 ≤ v ∧ v ≤ 1) :
    linesInter a0 a1 b0 b1 = some (u, v) :=
  (Geom.linesInter_iff a0 a1 b0 b1 u v).mpr ⟨hD, h, hu.1, hu.2, hv.1, hv.2⟩

/-- exact characterisation (soundness and completeness together) -/
theorem linesInter_iff (a0 a1 b0 b1 : Pt) (u v : Rat) :
    linesInter a0 a1 b0 b1 = some (u, v) ↔
      Pt.cross (a1 - a0) (b1 - b0) ≠ 0 ∧ lerp a0 a1 u = lerp b0 b1 v ∧ 0 ≤ u ∧ u ≤ 1 ∧ 0 ≤ v ∧ v ≤ 1 :=
  Geom.linesInter_iff a0 a1 b0 b1 u v

/-- symmetry: exchanging the two segments exchanges the two parameters -/
theorem linesInter_swap (a0 a1 b0 b1 : Pt) :
    linesInter b0 b1 a0 a1 = (linesInter a0 a1 b0 b1).map (fun p => (p.2, p.1)) :=
  Geom.linesInter_swap a0 a1 b0 b1

/-! ### `JordanCurve.intersection`: raw list and flag filters -/

/-- every raw entry points at existing segments, and is exactly what `segment & segment` gives there -/
theorem jordanInterRaw_mem (A B : Jordan) (c : Crossing) :
    c ∈ jordanInterRaw A B ↔
      ∃ s t, A[c.a]? = some s ∧ B[c.b]? = some t ∧ crossingOf c.a c.b s t = some c :=
  mem_jordanInterRaw A B c

theorem jordanInterRaw_index (A B : Jordan) (c : Crossing) (h : c ∈ jordanInterRaw A B) :
    c.a < A.length ∧ c.b < B.length := by
  obtain ⟨s, t, hs, ht, -⟩ := (mem_jordanInterRaw A B c).mp h
  exact ⟨(List.getElem?_eq_some_iff.mp hs).1, (List.getElem?_eq_some_iff.mp ht).1⟩

/-- for two straight segments, a raw `(u, v)` entry is a genuine common point of segments `a` and `b` -/
theorem jordanInterRaw_sound (A B : Jordan) (i k : Nat) (u v : Rat) (a0 a1 b0 b1 : Pt)
    (hA : A[i]? = some [a0, a1]) (hB : B[k]? = some [b0, b1])
    (h : (⟨i, k, some (u, v)⟩ : Crossing) ∈ jordanInterRaw A B) :
    lerp a0 a1 u = lerp b0 b1 v ∧ 0 ≤ u ∧ u ≤ 1 ∧ 0 ≤ v ∧ v ≤ 1 := by
  obtain ⟨s, t, hs, ht, hc⟩ := (mem_jordanInterRaw A B _).mp h
  obtain rfl : [a0, a1] = s := Option.some.inj (hA.symm.trans hs)
  obtain rfl : [b0, b1] = t := Option.some.inj (hB.symm.trans ht)
  exact linesInter_sound a0 a1 b0 b1 u v (segAnd_at ((crossingOf_some hc).2.2 u v rfl))

/-- the flags only filter: `equal_beziers = False` drops the `(None, None)` entries,
`end_points = False` drops the entries whose two parameters are both segment ends -/
theorem jordanInter_mem (A B : Jordan) (eq ep : Bool) (c : Crossing) :
    c ∈ jordanInter A B eq ep ↔
      c ∈ jordanInterRaw A B ∧ (eq = true ∨ c.uv.isSome = true) ∧
        (ep = true ∨ match c.uv with
          | none => True
          | some (u, v) => isEndPair u v = false) := by
  unfold jordanInter
  obtain ⟨a, b, uv⟩ := c
  cases eq <;> cases ep <;> cases uv <;> simp [List.mem_filter]

/-- with both flags set nothing is dropped -/
theorem jordanInter_all (A B : Jordan) : jordanInter A B true true = jordanInterRaw A B := by
  simp [jordanInter]

/-- the filtered list is a sublist of the raw list (order kept, nothing invented) -/
theorem jordanInter_sublist (A B : Jordan) (eq ep : Bool) :
    (jordanInter A B eq ep).Sublist (jordanInterRaw A B) := by
  unfold jordanInter
  cases eq <;> cases ep <;> simp only [if_true, if_false, Bool.false_eq_true]
  · exact (List.filter_sublist).trans List.filter_sublist
  · exact List.filter_sublist
  · exact List.filter_sublist
  · exact List.Sublist.refl _

/-! ### non-vacuity on concrete numbers -/
example : linesInter ⟨0,0⟩ ⟨2,0⟩ ⟨1,-1⟩ ⟨1,1⟩ = some (1/2, 1/2) := by decide +kernel
example : linesInter ⟨0,0⟩ ⟨4,2⟩ ⟨0,3⟩ ⟨3,0⟩ = some (1/2, 2/3) := by decide +kernel
example : linesInter ⟨0,0⟩ ⟨1,0⟩ ⟨2,-1⟩ ⟨2,1⟩ = none := by decide +kernel
example : linesInter ⟨0,0⟩ ⟨1,1⟩ ⟨1,0⟩ ⟨2,1⟩ = none := by decide +kernel
/-- two unit-overlapping squares cross twice; the shared-corner entries are end pairs -/
example :
    jordanInter (Jordan.fromVertices [⟨0,0⟩, ⟨2,0⟩, ⟨2,2⟩, ⟨0,2⟩])
      (Jordan.fromVertices [⟨1,1⟩, ⟨3,1⟩, ⟨3,3⟩, ⟨1,3⟩]) false false
      = [⟨1, 0, some (1/2, 1/2)⟩, ⟨2, 3, some (1/2, 1/2)⟩] := by decide +kernel

/-! ### tie to the source: the flag filters regenerated from `JordanCurve.intersection` on every run -/

/-- the keep-condition of the `end_points=False` filter written in the source is the model's `!isEndPair`, for ALL parameters,
and `(None, None)` entries survive it; `equal_beziers=False` removes exactly the `(None, None)` entries -/
theorem translated_flag_filters :
    Gen.equalBeziersFilterRemovesNone = true ∧ Gen.keepWithoutEndPoints none = true ∧
    ∀ u v : Rat, Gen.keepWithoutEndPoints (some (u, v)) = !(isEndPair u v) := by
  refine ⟨rfl, rfl, fun u v => ?_⟩
  simp only [Gen.keepWithoutEndPoints, isEndPair]
  grind

end ShapeVerif.C14
