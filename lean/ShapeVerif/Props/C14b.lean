/-
C14b — the SOURCE of `Intersection.lines` (curve.py), regenerated into `Gen/Arith.lean` by the arithmetic
translator on every run, is the function the theorems of C14 are about.

`Gen.linesInter`, `Gen.cross` are compiled from the Python AST (harness/translate_arith.py): straight-line rational
arithmetic, `if … return` chains, `tuple()` ↦ `none`.  `source_lines_is_model` (it cites `Source.linesInter_is_model`, Proofs/SourceBridges.lean) is re-proved
against the current source by `grind` (closed under any rewrite of the source that is propositionally / ring-equal on
every input); the soundness, completeness and symmetry theorems are then stated about the GENERATED function itself.
-/
import ShapeVerif.Props.C14
import ShapeVerif.Proofs.SourceBridges
import ShapeVerif.Proofs.Bezier

namespace ShapeVerif.C14
open ShapeVerif

/-- `Intersection.lines` as written in curve.py is the model's `linesInter`, on ALL inputs -/
theorem source_lines_is_model : Gen.linesInter = linesInter := Source.linesInter_is_model

/-- soundness of the source: a reported pair is a common point with both parameters in [0,1] -/
theorem source_lines_sound (a0 a1 b0 b1 : Pt) (u v : Rat) (h : Gen.linesInter a0 a1 b0 b1 = some (u, v)) :
    lerp a0 a1 u = lerp b0 b1 v ∧ 0 ≤ u ∧ u ≤ 1 ∧ 0 ≤ v ∧ v ≤ 1 := by
  rw [source_lines_is_model] at h; exact linesInter_sound a0 a1 b0 b1 u v h

/-- completeness and uniqueness of the source on non-parallel pairs -/
theorem source_lines_complete (a0 a1 b0 b1 : Pt) (u v : Rat)
    (hD : Pt.cross (a1 - a0) (b1 - b0) ≠ 0) (h : lerp a0 a1 u = lerp b0 b1 v)
    (hu : 0 ≤ u ∧ u ≤ 1) (hv : 0 ≤ v ∧ v ≤ 1) : Gen.linesInter a0 a1 b0 b1 = some (u, v) := by
  rw [source_lines_is_model]; exact linesInter_complete a0 a1 b0 b1 u v hD h hu hv

/-- operand symmetry of the source -/
theorem source_lines_swap (a0 a1 b0 b1 : Pt) :
    Gen.linesInter b0 b1 a0 a1 = (Gen.linesInter a0 a1 b0 b1).map (fun p => (p.2, p.1)) := by
  rw [source_lines_is_model]; exact linesInter_swap a0 a1 b0 b1

/-- parallel or degenerate pairs are never reported (they are `PlanarCurve.__and__`'s business) -/
theorem source_lines_parallel (a0 a1 b0 b1 : Pt) (hD : Pt.cross (a1 - a0) (b1 - b0) = 0) :
    Gen.linesInter a0 a1 b0 b1 = none := by
  rw [source_lines_is_model]; exact Geom.linesInter_parallel a0 a1 b0 b1 hD

/-! ### the box rejection of `PlanarCurve.__and__` never loses a crossing — every degree -/

/-- `if self.box() & other.box() is None: return None` is SOUND for pieces of every degree: when the boxes of the control points do not meet
(the test AS WRITTEN IN THE SOURCE, `Gen.boxDisjoint`), the two pieces have no common point at any pair of parameters in [0,1] -/
theorem source_box_rejection_sound (s t : Seg) (hs : s ≠ []) (ht : t ≠ [])
    (h : Gen.boxDisjoint (Seg.box s).lo (Seg.box s).hi (Seg.box t).lo (Seg.box t).hi = true)
    (u v : Rat) (hu : 0 ≤ u ∧ u ≤ 1) (hv : 0 ≤ v ∧ v ≤ 1) : evalSeg s u ≠ evalSeg t v := by
  -- the point `s(u)` is in the box of `s`, hence outside the box of `t`, hence no point of `t`
  exact (off_curve_of_not_contains t _
    (Box.disjoint_excludes _ _ (Source.boxDisjoint_is_model .. ▸ h) _ (evalSeg_in_box s u hu)) v hv).symm

/-! non-vacuity: the diagonals of the unit square meet at (1/2, 1/2); touching at an end point is reported -/
example : Gen.linesInter ⟨0, 0⟩ ⟨1, 1⟩ ⟨0, 1⟩ ⟨1, 0⟩ = some (1/2, 1/2) := by decide +kernel
example : Gen.linesInter ⟨0, 0⟩ ⟨2, 0⟩ ⟨2, 0⟩ ⟨2, 5⟩ = some (1, 0) := by decide +kernel
example : Gen.linesInter ⟨0, 0⟩ ⟨1, 0⟩ ⟨0, 1⟩ ⟨1, 1⟩ = none := by decide +kernel

end ShapeVerif.C14
