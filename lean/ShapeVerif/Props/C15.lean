/-
C15 — splitting a straight segment (`BezierCurve.split`, `JordanCurve.split` on polygons) changes
neither the integrals (area, first and second moments) nor the crossing number, hence not membership.
Quantifiers: ALL rational end points, ALL cut parameters (`split_crossing` and `wind_insert_vertex` are stated
for parameters in [0,1]; `Geom.contrib_split` does not need it: the two pieces of a line cut outside the
segment overlap and cancel), ALL query points, ALL polygons and ALL node lists.
-/
import ShapeVerif.Proofs.SplitLine
import ShapeVerif.Proofs.Sort

namespace ShapeVerif.C15
open ShapeVerif ShapeVerif.Geom

/-! ### one cut: the integrals `∫ x^a y^b dy` add up, for every `t` (even outside [0,1]) -/
theorem split_area (p q : Pt) (t : Rat) :
    exactVertical [p, lerp p q t] 1 0 + exactVertical [lerp p q t, q] 1 0 = exactVertical [p, q] 1 0 :=
  exactVertical_line_split p q t 1 0
theorem split_moment_x (p q : Pt) (t : Rat) :
    exactVertical [p, lerp p q t] 2 0 + exactVertical [lerp p q t, q] 2 0 = exactVertical [p, q] 2 0 :=
  exactVertical_line_split p q t 2 0
theorem split_moment_y (p q : Pt) (t : Rat) :
    exactVertical [p, lerp p q t] 1 1 + exactVertical [lerp p q t, q] 1 1 = exactVertical [p, q] 1 1 :=
  exactVertical_line_split p q t 1 1
theorem split_moment_xx (p q : Pt) (t : Rat) :
    exactVertical [p, lerp p q t] 3 0 + exactVertical [lerp p q t, q] 3 0 = exactVertical [p, q] 3 0 :=
  exactVertical_line_split p q t 3 0
theorem split_moment_xy (p q : Pt) (t : Rat) :
    exactVertical [p, lerp p q t] 2 1 + exactVertical [lerp p q t, q] 2 1 = exactVertical [p, q] 2 1 :=
  exactVertical_line_split p q t 2 1
theorem split_moment_yy (p q : Pt) (t : Rat) :
    exactVertical [p, lerp p q t] 1 2 + exactVertical [lerp p q t, q] 1 2 = exactVertical [p, q] 1 2 :=
  exactVertical_line_split p q t 1 2

/-- what the code computes for one node is exactly these two pieces -/
theorem splitSeg_one (p q : Pt) (t : Rat) : splitSeg [p, q] [t] = [[p, lerp p q t], [lerp p q t, q]] := by
  simp [splitSeg, sortRat, insertSorted, dedupNodes, splitMany, splitAt_line, cleanSeg]

/-! ### one cut: the ray-crossing contributions add up, for EVERY query point `r`
(the pieces lie on one line and their contributions telescope; vertical edges give 0) -/
theorem split_crossing (p q r : Pt) (t : Rat) (h0 : 0 ≤ t) (h1 : t ≤ 1) :
    (if (⟨p, lerp p q t⟩ : Edge).below r then (⟨p, lerp p q t⟩ : Edge).dir else 0)
      + (if (⟨lerp p q t, q⟩ : Edge).below r then (⟨lerp p q t, q⟩ : Edge).dir else 0)
      = (if (⟨p, q⟩ : Edge).below r then (⟨p, q⟩ : Edge).dir else 0) :=
  contrib_split p q r t

/-- inserting a vertex on an edge of any edge list keeps the crossing number of every point -/
theorem wind_insert_vertex (l1 l2 : List Edge) (p q r : Pt) (t : Rat) (h0 : 0 ≤ t) (h1 : t ≤ 1) :
    wind (l1 ++ [⟨p, lerp p q t⟩, ⟨lerp p q t, q⟩] ++ l2) r = wind (l1 ++ [⟨p, q⟩] ++ l2) r := by
  simp only [wind_append, wind_cons, wind_nil]
  rw [← contrib_split p q r t]; ring

/-! ### `segment.split(nodes)` with any number of nodes (sorted and de-duplicated by the code) -/
theorem splitSeg_integral (p q : Pt) (nodes : List Rat) (a b : Nat) :
    jordanExactVertical (splitSeg [p, q] nodes) a b = exactVertical [p, q] a b :=
  Geom.splitSeg_integral p q nodes a b

theorem splitSeg_wind (p q r : Pt) (nodes : List Rat) :
    wind ((splitSeg [p, q] nodes).map Seg.chord) r = wind [⟨p, q⟩] r := by
  simpa [wind_eq, List.map_map, Function.comp_def, Seg.chord] using Geom.splitSeg_contrib p q r nodes

/-! ### `JordanCurve.split(indexs, nodes)` on a polygon -/
theorem jordanSplit_integral (j : Jordan) (hj : j.isPolygon = true) (pairs : List (Nat × Rat)) (a b : Nat) :
    jordanExactVertical (Jordan.split j pairs) a b = jordanExactVertical j a b :=
  Geom.jordanSplit_integral j hj pairs a b

theorem jordanSplit_area (j : Jordan) (hj : j.isPolygon = true) (pairs : List (Nat × Rat)) :
    Jordan.area (Jordan.split j pairs) = Jordan.area j := Geom.jordanSplit_area j hj pairs

theorem jordanSplit_moment (j : Jordan) (hj : j.isPolygon = true) (pairs : List (Nat × Rat)) (a b : Nat) :
    Jordan.moment (Jordan.split j pairs) a b = Jordan.moment j a b :=
  Geom.jordanSplit_moment j hj pairs a b

theorem jordanSplit_wind (j : Jordan) (hj : j.isPolygon = true) (pairs : List (Nat × Rat)) (r : Pt) :
    wind (Jordan.split j pairs).edges r = wind j.edges r :=
  Geom.jordanSplit_wind j hj pairs r

/-- split does not change membership -/
theorem jordanSplit_memW (j : Jordan) (hj : j.isPolygon = true) (pairs : List (Nat × Rat)) (r : Pt) :
    memW (Jordan.split j pairs) r = memW j r :=
  Geom.jordanSplit_memW j hj pairs r

/-! ### the node filter of `split` -/
/-- parameters of one segment closer than `1e-6` are merged: what remains is `1e-6`-separated … -/
theorem dedupNodes_separated (l : List Rat) : Spaced (dedupNodes l) := dedupNodes_spaced l
/-- … and is a sublist of the input (nothing invented, order kept) -/
theorem dedupNodes_sub (l : List Rat) : (dedupNodes l).Sublist l := dedupNodes_sublist l
theorem sortRat_perm_mem (l : List Rat) (y : Rat) : y ∈ sortRat l ↔ y ∈ l := mem_sortRat l y
theorem sortRat_is_sorted (l : List Rat) : (sortRat l).Pairwise (· ≤ ·) := sortRat_pairwise l

/-! ### non-vacuity -/
example : splitSeg [⟨0,0⟩, ⟨4,2⟩] [3/4, 1/4] = [[⟨0,0⟩, ⟨1,1/2⟩], [⟨1,1/2⟩, ⟨3,3/2⟩], [⟨3,3/2⟩, ⟨4,2⟩]] := by
  decide +kernel
example : Jordan.area (Jordan.split (Jordan.fromVertices [⟨0,0⟩, ⟨4,0⟩, ⟨0,3⟩]) [(1, 1/3), (0, 1/2), (1, 2/3)]) = 6 := by
  decide +kernel
example : (Jordan.split (Jordan.fromVertices [⟨0,0⟩, ⟨4,0⟩, ⟨0,3⟩]) [(1, 1/3), (0, 1/2), (1, 2/3)]).length = 6 := by
  decide +kernel
example : memW (Jordan.split (Jordan.fromVertices [⟨0,0⟩, ⟨4,0⟩, ⟨0,3⟩]) [(1, 1/3), (0, 1/2)]) ⟨2,1⟩ = true := by
  decide +kernel

end ShapeVerif.C15
