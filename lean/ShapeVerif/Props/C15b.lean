/-
C15b — splitting retraces the curve, for EVERY degree and EVERY list of parameters.

C15.lean states what splitting straight pieces preserves (area, moments, winding).  Here: `segment.split(nodes)` (`splitMany`: successive de Casteljau cuts at the re-scaled parameters
`(n − prev)/(1 − prev)`, exactly as `BezierCurve.split` / pynurbs knot insertion does) produces pieces that are
reparametrisations of the ORIGINAL segment over the consecutive parameter intervals [0,n₁], [n₁,n₂], …, [n_k,1]:
`piece_j(u) = seg(n_j + u·(n_{j+1} − n_j))` for every rational u — all degrees, all node lists avoiding 1.
Hence no point of the curve is moved, consecutive pieces meet exactly at `seg(n_j)`, and the pieces keep the degree;
`splitMany_integral_all`: the pieces together have exactly the boundary integrals (area, all moments) of the segment.
-/
import ShapeVerif.Proofs.Reparam

namespace ShapeVerif.C15
open ShapeVerif

/-- `segment.split(nodes)`: the pieces are the original curve on [0,n₁], [n₁,n₂], …, [n_k,1] — every degree -/
theorem split_retraces_all (s : Seg) (hs : s ≠ []) (nodes : List Rat) (hn : ∀ n ∈ nodes, n ≠ 1) :
    List.Forall₂ (fun piece iv => Retraces s piece iv.1 iv.2) (splitMany s 0 nodes) (intervals 0 nodes) :=
  splitMany_retraces s nodes s 0 (by norm_num) hn (fun u => by ring_nf)

/-- the number of pieces is the number of nodes + 1, and every piece keeps the number of control points -/
theorem splitMany_shape (r : Seg) (prev : Rat) (nodes : List Rat) :
    (splitMany r prev nodes).length = nodes.length + 1 ∧ ∀ p ∈ splitMany r prev nodes, p.length = r.length := by
  fun_induction splitMany r prev nodes with
  | case1 => simp
  | case2 r prev n rest t l r' h ih =>
    obtain ⟨h1, h2⟩ := length_splitAt r t
    rw [h] at h1 h2
    exact ⟨congrArg (· + 1) ih.1, List.forall_mem_cons.mpr ⟨h1, fun p hp => (ih.2 p hp).trans h2⟩⟩

/-- in particular a piece evaluated at 0 / 1 is the original curve at the interval ends: consecutive pieces meet at seg(n_j) -/
theorem retraces_ends (orig piece : Seg) (lo hi : Rat) (h : Retraces orig piece lo hi) :
    evalSeg piece 0 = evalSeg orig lo ∧ evalSeg piece 1 = evalSeg orig hi :=
  ⟨by simpa using h 0, by simpa using h 1⟩

/-! ### … and no boundary integral changes: area and every moment of a curved piece are those of its pieces (every degree, all exponents) -/

/-- one cut: ∫ x^a y^b dy over the two halves adds up to the integral over the piece — any degree, any cut parameter, all exponents
(Proofs/Reparam.lean: the halves are the piece composed with t ↦ t₀t and t ↦ t₀ + (1−t₀)t; fundamental theorem on ℚ[X]) -/
theorem split_preserves_integral_all (s : Seg) (hs : 2 ≤ s.length) (t0 : Rat) (a b : Nat) :
    exactVertical (splitAt s t0).1 a b + exactVertical (splitAt s t0).2 a b = exactVertical s a b :=
  exactVertical_split s t0 a b

/-- `segment.split(nodes)`: the pieces together have the boundary integrals of the segment, for every list of parameters -/
theorem splitMany_integral_all (nodes : List Rat) (r : Seg) (hr : 2 ≤ r.length) (prev : Rat) (a b : Nat) :
    jordanExactVertical (splitMany r prev nodes) a b = exactVertical r a b :=
  jordanExactVertical_splitMany r prev nodes a b

/-- in particular the signed area ∫ x dy and every moment contribution of a curved piece survive any split exactly -/
theorem split_preserves_area_all (s : Seg) (hs : 2 ≤ s.length) (nodes : List Rat) :
    jordanExactVertical (splitMany s 0 nodes) 1 0 = exactVertical s 1 0 := splitMany_integral_all nodes s hs 0 1 0

/-! non-vacuity: a cubic cut at 1/4 and 2/3 — three pieces, the middle one is the curve on [1/4, 2/3] -/
example : intervals 0 [1/4, 2/3] = [(0, 1/4), (1/4, 2/3), (2/3, 1)] := by decide +kernel
example : ((splitMany [⟨0,0⟩, ⟨1,2⟩, ⟨3,0⟩, ⟨4,1⟩] 0 [1/4, 2/3]).map fun p => evalSeg p (1/2)) =
    [1/8, 11/24, 5/6].map (evalSeg [⟨0,0⟩, ⟨1,2⟩, ⟨3,0⟩, ⟨4,1⟩]) := by decide +kernel

end ShapeVerif.C15
