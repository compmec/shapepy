/-
C16 — the primitive factories (`Primitive.square/triangle/regular_polygon(4)/circle`):
exact areas, orientation, the centre is strictly inside, and the quadratic arcs of the circle stay
in an explicit thin band around the true circle.
Quantifiers: ALL rational sizes / radii / centres, ALL `h = tan(θ/2)`, ALL parameters, ALL arc indices.
-/
import ShapeVerif.Proofs.Primitives
import ShapeVerif.Proofs.Triangle
import ShapeVerif.Gen.Tables

namespace ShapeVerif.C16
open ShapeVerif ShapeVerif.Geom ShapeVerif.Primitive

/-! ### polygons: area and orientation -/
theorem square_area (s : Rat) (c : Pt) : Jordan.area (Jordan.fromVertices (square s c)) = s * s := by
  simp only [square, area_fromVertices4, Pt.add_x, Pt.add_y]; ring
theorem triangle_area (s : Rat) (c : Pt) : Jordan.area (Jordan.fromVertices (triangle s c)) = s * s / 2 := by
  simp only [triangle, ShapeVerif.triangle_area, triCross, Pt.add_x, Pt.add_y]; ring
theorem regular4_area (r : Rat) (c : Pt) : Jordan.area (Jordan.fromVertices (regular4 r c)) = 2 * r * r := by
  simp only [regular4, area_fromVertices4, Pt.add_x, Pt.add_y]; ring

/-- counter-clockwise exactly when the size is nonzero (in particular for every size the factory accepts) -/
theorem square_ccw (s : Rat) (c : Pt) : (Jordan.fromVertices (square s c)).ccw = true ↔ s ≠ 0 := by
  simp only [Jordan.ccw, square_area, decide_eq_true_eq]
  exact ⟨fun h hs => by rw [hs] at h; simp at h, fun h => mul_self_pos.mpr h⟩
theorem triangle_ccw (s : Rat) (c : Pt) : (Jordan.fromVertices (triangle s c)).ccw = true ↔ s ≠ 0 := by
  simp only [Jordan.ccw, triangle_area, decide_eq_true_eq]
  constructor
  · intro h hs; rw [hs] at h; simp at h
  · intro h; have := mul_self_pos.mpr h; linarith
theorem regular4_ccw (r : Rat) (c : Pt) : (Jordan.fromVertices (regular4 r c)).ccw = true ↔ r ≠ 0 := by
  simp only [Jordan.ccw, regular4_area, decide_eq_true_eq]
  constructor
  · intro h hs; rw [hs] at h; simp at h
  · intro h; have := mul_self_pos.mpr h; linarith
theorem square_area_pos (s : Rat) (c : Pt) (h : validSize s = true) :
    0 < Jordan.area (Jordan.fromVertices (square s c)) := by
  rw [square_area]; simp only [validSize, decide_eq_true_eq] at h; exact mul_pos h h
theorem triangle_area_pos (s : Rat) (c : Pt) (h : validSize s = true) :
    0 < Jordan.area (Jordan.fromVertices (triangle s c)) := by
  rw [triangle_area]; simp only [validSize, decide_eq_true_eq] at h; have := mul_pos h h; linarith
theorem regular4_area_pos (r : Rat) (c : Pt) (h : validRegular 4 r = true) :
    0 < Jordan.area (Jordan.fromVertices (regular4 r c)) := by
  rw [regular4_area]
  simp only [validRegular, Bool.and_eq_true, decide_eq_true_eq] at h
  have := mul_pos h.2 h.2; linarith

/-! ### every point of the open square / diamond / triangle has crossing number 1; so has the centre -/
theorem square_wind_interior (s : Rat) (c r : Pt) (hs : 0 < s)
    (hx1 : c.x - s / 2 < r.x) (hx2 : r.x < c.x + s / 2) (hy1 : c.y - s / 2 < r.y) (hy2 : r.y < c.y + s / 2) :
    wind (Jordan.fromVertices (square s c)).edges r = 1 := by
  rw [square_eq_rect, rect_wind, ← sub_eq_add_neg, ← sub_eq_add_neg, if_neg (not_le.mpr hx2), if_pos hx1.le,
    if_neg (not_lt.mpr hy2.le), if_pos hy1]
  rfl

theorem square_centre (s : Rat) (c : Pt) (hs : 0 < s) : wind (Jordan.fromVertices (square s c)).edges c = 1 :=
  square_wind_interior s c c hs (sub_lt_self _ (half_pos hs)) (lt_add_of_pos_right _ (half_pos hs))
    (sub_lt_self _ (half_pos hs)) (lt_add_of_pos_right _ (half_pos hs))

/-- `r` is on the left of each side of `regular4`: the cross product is `ρ` times the slack of `h1 … h4` -/
theorem regular4_wind_interior (ρ : Rat) (c r : Pt)
    (h1 : (r.x - c.x) + (r.y - c.y) < ρ) (h2 : -(r.x - c.x) + (r.y - c.y) < ρ)
    (h3 : -(r.x - c.x) - (r.y - c.y) < ρ) (h4 : (r.x - c.x) - (r.y - c.y) < ρ) :
    wind (Jordan.fromVertices (regular4 ρ c)).edges r = 1 := by
  have hρ : 0 < ρ := by linarith only [h1, h3]
  unfold regular4
  apply quad_wind_inside <;> simp only [Pt.cross, Pt.add_x, Pt.add_y, Pt.sub_x, Pt.sub_y]
  · linarith only [mul_pos hρ (sub_pos.mpr h1)]
  · linarith only [mul_pos hρ (sub_pos.mpr h2)]
  · linarith only [mul_pos hρ (sub_pos.mpr h3)]
  · linarith only [mul_pos hρ (sub_pos.mpr h4)]
  · linarith only [h2, h3]
  · linarith only [h1, h4]

theorem regular4_centre (ρ : Rat) (c : Pt) (h : 0 < ρ) : wind (Jordan.fromVertices (regular4 ρ c)).edges c = 1 :=
  regular4_wind_interior ρ c c (by linarith) (by linarith) (by linarith) (by linarith)

/-- `triangle` is a counter-clockwise triangle, and the three `triCross` values of `r` are `s` times the slack of `h2`,
`h3`, `h1` -/
theorem triangle_wind_interior (s : Rat) (c r : Pt)
    (h1 : c.x < r.x) (h2 : c.y < r.y) (h3 : (r.x - c.x) + (r.y - c.y) < s) :
    wind (Jordan.fromVertices (triangle s c)).edges r = 1 := by
  have hs : 0 < s := by linarith only [h1, h2, h3]
  unfold triangle
  apply ShapeVerif.triangle_wind_inside <;> simp only [triCross, Pt.add_x, Pt.add_y]
  · linarith only [mul_pos hs (sub_pos.mpr h2)]
  · linarith only [mul_pos hs (sub_pos.mpr h3)]
  · linarith only [mul_pos hs (sub_pos.mpr h1)]

theorem triangle_inner_point (s : Rat) (c : Pt) (hs : 0 < s) :
    wind (Jordan.fromVertices (triangle s c)).edges (c + ⟨s / 4, s / 4⟩) = 1 :=
  triangle_wind_interior s c _ (by simp only [Pt.add_x]; linarith) (by simp only [Pt.add_y]; linarith)
    (by simp only [Pt.add_x, Pt.add_y]; linarith)

/-- hence these points are members (`memW`) of the primitive -/
theorem square_centre_mem (s : Rat) (c : Pt) (hs : 0 < s) : memW (Jordan.fromVertices (square s c)) c = true :=
  memW_of_wind_one (square_area_pos s c (decide_eq_true hs)) (square_centre s c hs)
theorem regular4_centre_mem (ρ : Rat) (c : Pt) (h : 0 < ρ) : memW (Jordan.fromVertices (regular4 ρ c)) c = true :=
  memW_of_wind_one (regular4_area_pos ρ c (decide_eq_true h)) (regular4_centre ρ c h)
theorem triangle_inner_mem (s : Rat) (c : Pt) (hs : 0 < s) :
    memW (Jordan.fromVertices (triangle s c)) (c + ⟨s / 4, s / 4⟩) = true :=
  memW_of_wind_one (triangle_area_pos s c (decide_eq_true hs)) (triangle_inner_point s c hs)

/-! ### the circle: quadratic arcs with `h = tan(θ/2)` -/
theorem cos_sin_unit (h : Rat) : (cosH h) ^ 2 + (sinH h) ^ 2 = 1 := by
  rw [sq, sq]; exact cosH_sq_add_sinH_sq h

/-- exact deviation of the first arc from the circle of radius `r` -/
theorem firstArc_deviation (r h t : Rat) :
    (evalSeg (firstArc r h) t).x ^ 2 + (evalSeg (firstArc r h) t).y ^ 2 - r ^ 2
      = 4 * h ^ 4 * r ^ 2 * t ^ 2 * (1 - t) ^ 2 / (1 + h ^ 2) := by
  have := one_add_sq_ne h
  have := one_add_mul_self_ne h
  simp only [firstArc, cosH, sinH, evalSeg_three]
  field_simp; ring

/-- … and of EVERY arc `k` (exact rotations of the first) -/
theorem arc_deviation (r h : Rat) (k : Nat) (t : Rat) :
    (evalSeg (arc r h k) t).x ^ 2 + (evalSeg (arc r h k) t).y ^ 2 - r ^ 2
      = 4 * h ^ 4 * r ^ 2 * t ^ 2 * (1 - t) ^ 2 / (1 + h ^ 2) := by
  rw [arc_norm, firstArc_deviation]

/-- the arcs never enter the circle … -/
theorem arc_outside (r h : Rat) (k : Nat) (t : Rat) :
    r ^ 2 ≤ (evalSeg (arc r h k) t).x ^ 2 + (evalSeg (arc r h k) t).y ^ 2 := by
  have hp := one_add_sq_pos h
  rw [← sub_nonneg, arc_deviation]
  positivity

/-- … and stay in the band `|C|² ≤ r² (1 + h⁴ / (4 (1 + h²)))` for parameters in [0,1] -/
theorem arc_band (r h : Rat) (k : Nat) (t : Rat) (h0 : 0 ≤ t) (h1 : t ≤ 1) :
    (evalSeg (arc r h k) t).x ^ 2 + (evalSeg (arc r h k) t).y ^ 2 ≤ r ^ 2 * (1 + h ^ 4 / (4 * (1 + h ^ 2))) := by
  -- the deviation is `K · 4 t²(1−t)²` with `K = h⁴ r² / (1 + h²) ≥ 0`, the width of the band is `K / 4`
  have hK : 0 ≤ h ^ 4 * r ^ 2 / (1 + h ^ 2) := by positivity
  have := mul_le_mul_of_nonneg_left (sq_mul_sq_le h0 h1) hK
  rw [← sub_le_sub_iff_right (r ^ 2), arc_deviation, mul_comm 4 (1 + h ^ 2), ← div_div]
  linear_combination 4 * this

/-- end points lie exactly on the circle -/
theorem arc_ends_on_circle (r h : Rat) (k : Nat) :
    (evalSeg (arc r h k) 0).x ^ 2 + (evalSeg (arc r h k) 0).y ^ 2 = r ^ 2 ∧
    (evalSeg (arc r h k) 1).x ^ 2 + (evalSeg (arc r h k) 1).y ^ 2 = r ^ 2 := by
  constructor
  · rw [← sub_eq_zero, arc_deviation]; ring
  · rw [← sub_eq_zero, arc_deviation]; ring

/-- consecutive arcs join exactly -/
theorem arc_join (r h : Rat) (k : Nat) : evalSeg (arc r h k) 1 = evalSeg (arc r h (k + 1)) 0 := by
  rw [arc_eval, arc_eval, firstArc_start, firstArc_end, rotK_succ']

/-- `∫ x dy` along the first arc, and the area of one sector (centre – arc – centre), the same for all `k`.
The model has no `∮ (x dy − y dx)/2`; the sector is expressed as a closed `Jordan` instead. -/
theorem firstArc_integral (r h : Rat) :
    exactVertical (firstArc r h) 1 0 = 2 * r ^ 2 * h * (3 + h ^ 2 + h ^ 4) / (3 * (1 + h ^ 2) ^ 2) := by
  have := one_add_sq_ne h
  have := one_add_mul_self_ne h
  simp only [firstArc, exactVertical_quadratic_10, cosH, sinH]
  field_simp; ring

theorem sector_area (r h : Rat) (k : Nat) :
    Jordan.area [[⟨0, 0⟩, (arc r h k).headD Pt.zero], arc r h k, [(arc r h k).getLastD Pt.zero, ⟨0, 0⟩]]
      = h * r ^ 2 * (2 * h ^ 2 + 3) / (3 * (1 + h ^ 2)) := by
  -- every sector has the area of the first (rotation), which is the integral along the arc and the two radii
  refine (sectorOf_area_rotK _ _ _ _ _ (cosH_sq_add_sinH_sq h) k).trans ?_
  have := one_add_sq_ne h
  have := one_add_mul_self_ne h
  rw [sectorOf_area, ← firstArc, firstArc_integral]
  simp only [cosH, sinH]
  field_simp; ring

/-- `ndiv = 4` (`h = 1`): the four arcs close up exactly and enclose `10 r² / 3` -/
theorem circle4_closed (r : Rat) : evalSeg (arc r 1 3) 1 = evalSeg (arc r 1 0) 0 := by
  rw [arc_eval, arc_eval, firstArc_start, firstArc_end, cosH_one, sinH_one]
  simp only [rotK, rot_zero_one, neg_neg]
theorem circle4_area (r : Rat) : Jordan.area [arc r 1 0, arc r 1 1, arc r 1 2, arc r 1 3] = 10 / 3 * r ^ 2 := by
  simp only [Jordan.area, jordanExactVertical, arc, firstArc, rotK, cosH_one, sinH_one, rot_zero_one, List.map_cons,
    List.map_nil, List.sum_cons, List.sum_nil, exactVertical_quadratic_10]
  ring

/-! ### non-vacuity -/
example : Jordan.area (Jordan.fromVertices (square 3 ⟨1, -2⟩)) = 9 := by decide +kernel
example : wind (Jordan.fromVertices (regular4 (5/2) ⟨1, -2⟩)).edges ⟨1, -2⟩ = 1 := by decide +kernel
example : wind (Jordan.fromVertices (square 3 ⟨1, -2⟩)).edges ⟨10, -2⟩ = 0 := by decide +kernel
example : evalSeg (arc 5 (1/2) 2) (1/2) = ⟨-171/50, 369/100⟩ := by decide +kernel
example : evalSeg (arc 5 (1/2) 0) 1 = ⟨3, 4⟩ := by decide +kernel

/-! ### tie to the source: the vertex formulas regenerated from `Primitive.square/triangle/regular_polygon` on every run -/

/-- the vertex lists written in primitive.py are the model's (so every theorem above is about the formulas the code contains) -/
theorem translated_vertex_formulas (s : Rat) (c : Pt) :
    Gen.squareVertices s c = Primitive.square s c ∧ Gen.triangleVertices s c = Primitive.triangle s c ∧
    Gen.regular4Vertices s c = Primitive.regular4 s c := by
  refine ⟨?_, ?_, ?_⟩ <;> simp [Gen.squareVertices, Gen.triangleVertices, Gen.regular4Vertices, Primitive.square, Primitive.triangle, Primitive.regular4]

end ShapeVerif.C16
