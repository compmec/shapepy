/-
C16b — `Primitive.square` AS WRITTEN IN THE SOURCE (vertex formulas regenerated into `Gen/Tables.lean` on every run) has exactly the
measure of the square it documents: area s², centroid at the centre, and EVERY moment ∬ x^a y^b equal to the iterated integral over
[c.x − s/2, c.x + s/2] × [c.y − s/2, c.y + s/2] — for all rational sides, centres and all exponents: its vertex list is that of the
axis-parallel rectangle `rect` started at the upper right corner (`Primitive.square_eq_rect`), whose moments are `Jordan.moment_rect` (Proofs/StraightEdges.lean).
A change of a vertex formula in primitive.py that keeps the shape a counter-clockwise quadrilateral but moves or resizes it breaks
these equalities.
-/
import ShapeVerif.Props.C16
import ShapeVerif.Proofs.StraightEdges

namespace ShapeVerif.C16
open ShapeVerif

theorem source_square_every_moment (s : Rat) (c : Pt) (a b : Nat) :
    Jordan.moment (Jordan.fromVertices (Gen.squareVertices s c)) a b
      = ((c.x + s / 2) ^ (a + 1) - (c.x - s / 2) ^ (a + 1)) / ((a + 1 : Nat) : Rat)
        * (((c.y + s / 2) ^ (b + 1) - (c.y - s / 2) ^ (b + 1)) / ((b + 1 : Nat) : Rat)) := by
  rw [(translated_vertex_formulas s c).1, Primitive.square_eq_rect, Jordan.moment_rect]
  ring

theorem source_square_has_area_s2 (s : Rat) (c : Pt) : Jordan.area (Jordan.fromVertices (Gen.squareVertices s c)) = s ^ 2 := by
  rw [← Jordan.moment_00, source_square_every_moment]
  ring

/-- the first moments are centre × area: the centroid of the primitive is the requested centre -/
theorem source_square_centroid_is_centre (s : Rat) (c : Pt) :
    Jordan.moment (Jordan.fromVertices (Gen.squareVertices s c)) 1 0 = c.x * s ^ 2 ∧
    Jordan.moment (Jordan.fromVertices (Gen.squareVertices s c)) 0 1 = c.y * s ^ 2 := by
  rw [source_square_every_moment, source_square_every_moment]
  exact ⟨by ring, by ring⟩

example : Jordan.moment (Jordan.fromVertices (Gen.squareVertices 3 ⟨1/2, -2⟩)) 2 3 = -225 / 2 := by
  rw [source_square_every_moment]; norm_num

end ShapeVerif.C16
