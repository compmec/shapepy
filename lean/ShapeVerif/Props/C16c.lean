/-
C16c — `Primitive.triangle` and the four-sided `Primitive.regular_polygon` AS WRITTEN IN THE SOURCE (vertex formulas regenerated into
`Gen/Tables.lean` on every run) have the measure of the figures they document: the right triangle with legs `s` at the corner `c` has area
s²/2, centroid c + (s/3, s/3) and second moments of the right triangle; the diamond of circumradius `r` has area 2r², centroid at the requested
centre and second central moments r⁴/3 — for all rational sizes and centres.  A change of one vertex formula in primitive.py that keeps the
polygon simple and counter-clockwise but moves, shears or resizes it breaks these equalities (the area alone does not see a shear).
-/
import ShapeVerif.Props.C16b

namespace ShapeVerif.C16
open ShapeVerif

/-! ### the right triangle of primitive.py -/

theorem source_triangle_area (s : Rat) (c : Pt) :
    Jordan.moment (Jordan.fromVertices (Gen.triangleVertices s c)) 0 0 = s ^ 2 / 2 := by
  rw [Jordan.moment_00, (translated_vertex_formulas s c).2.1, triangle_area]
  ring

/-- first moments = area × centroid, the centroid being c + (s/3, s/3) -/
theorem source_triangle_centroid (s : Rat) (c : Pt) :
    Jordan.moment (Jordan.fromVertices (Gen.triangleVertices s c)) 1 0 = s ^ 2 / 2 * (c.x + s / 3) ∧
    Jordan.moment (Jordan.fromVertices (Gen.triangleVertices s c)) 0 1 = s ^ 2 / 2 * (c.y + s / 3) := by
  rw [(translated_vertex_formulas s c).2.1, Primitive.triangle, triangle_moment_10, triangle_moment_01]
  simp only [triCross, Pt.add_x', Pt.add_y']
  exact ⟨by ring, by ring⟩

/-- second moments for every corner position (parallel-axis form) -/
theorem source_triangle_second_moments_at (s : Rat) (c : Pt) :
    Jordan.moment (Jordan.fromVertices (Gen.triangleVertices s c)) 2 0
        = s ^ 2 / 2 * (c.x ^ 2 + 2 * c.x * (s / 3)) + s ^ 4 / 12 ∧
    Jordan.moment (Jordan.fromVertices (Gen.triangleVertices s c)) 0 2
        = s ^ 2 / 2 * (c.y ^ 2 + 2 * c.y * (s / 3)) + s ^ 4 / 12 ∧
    Jordan.moment (Jordan.fromVertices (Gen.triangleVertices s c)) 1 1
        = s ^ 2 / 2 * (c.x * c.y + (c.x + c.y) * (s / 3)) + s ^ 4 / 24 := by
  rw [(translated_vertex_formulas s c).2.1, Primitive.triangle, triangle_moment_20, triangle_moment_02, triangle_moment_11]
  simp only [triCross, Pt.add_x', Pt.add_y']
  exact ⟨by ring, by ring, by ring⟩

/-- second moments about the corner `c` (taken at c = 0): ∬x² = ∬y² = s⁴/12, ∬xy = s⁴/24 — the right isosceles triangle and no sheared copy of it -/
theorem source_triangle_second_moments (s : Rat) :
    Jordan.moment (Jordan.fromVertices (Gen.triangleVertices s ⟨0, 0⟩)) 2 0 = s ^ 4 / 12 ∧
    Jordan.moment (Jordan.fromVertices (Gen.triangleVertices s ⟨0, 0⟩)) 0 2 = s ^ 4 / 12 ∧
    Jordan.moment (Jordan.fromVertices (Gen.triangleVertices s ⟨0, 0⟩)) 1 1 = s ^ 4 / 24 := by
  simpa using source_triangle_second_moments_at s ⟨0, 0⟩

/-! ### the diamond (regular polygon with four sides) of primitive.py: two triangles along the horizontal diagonal -/

theorem source_regular4_moment_split (r : Rat) (c : Pt) (a b : Nat) :
    Jordan.moment (Jordan.fromVertices (Gen.regular4Vertices r c)) a b
      = Jordan.moment (Jordan.fromVertices [c + ⟨r, 0⟩, c + ⟨0, r⟩, c + ⟨-r, 0⟩]) a b
        + Jordan.moment (Jordan.fromVertices [c + ⟨-r, 0⟩, c + ⟨0, -r⟩, c + ⟨r, 0⟩]) a b := by
  rw [(translated_vertex_formulas r c).2.2, Primitive.regular4]
  exact chord_cut_moment [_] [_] _ _ a b

theorem source_regular4_area (r : Rat) (c : Pt) :
    Jordan.moment (Jordan.fromVertices (Gen.regular4Vertices r c)) 0 0 = 2 * r ^ 2 := by
  rw [Jordan.moment_00, (translated_vertex_formulas r c).2.2, regular4_area]
  ring

/-- the centroid of the diamond is the requested centre -/
theorem source_regular4_centroid_is_centre (r : Rat) (c : Pt) :
    Jordan.moment (Jordan.fromVertices (Gen.regular4Vertices r c)) 1 0 = c.x * (2 * r ^ 2) ∧
    Jordan.moment (Jordan.fromVertices (Gen.regular4Vertices r c)) 0 1 = c.y * (2 * r ^ 2) := by
  rw [source_regular4_moment_split, source_regular4_moment_split, triangle_moment_10, triangle_moment_10, triangle_moment_01,
    triangle_moment_01]
  simp only [triCross, Pt.add_x', Pt.add_y']
  exact ⟨by ring, by ring⟩

/-- second central moments: ∬x² = ∬y² = r⁴/3 and ∬xy = 0 about the centre (taken at c = 0) — the diamond is neither stretched nor sheared -/
theorem source_regular4_second_moments (r : Rat) :
    Jordan.moment (Jordan.fromVertices (Gen.regular4Vertices r ⟨0, 0⟩)) 2 0 = r ^ 4 / 3 ∧
    Jordan.moment (Jordan.fromVertices (Gen.regular4Vertices r ⟨0, 0⟩)) 0 2 = r ^ 4 / 3 ∧
    Jordan.moment (Jordan.fromVertices (Gen.regular4Vertices r ⟨0, 0⟩)) 1 1 = 0 := by
  rw [source_regular4_moment_split, source_regular4_moment_split, source_regular4_moment_split, triangle_moment_20,
    triangle_moment_20, triangle_moment_02, triangle_moment_02, triangle_moment_11, triangle_moment_11]
  simp only [triCross, Pt.add_x', Pt.add_y']
  exact ⟨by ring, by ring, by ring⟩

example : Jordan.moment (Jordan.fromVertices (Gen.triangleVertices 3 ⟨1, -2⟩)) 1 0 = 9 := by
  rw [(source_triangle_centroid 3 ⟨1, -2⟩).1]; norm_num
example : Jordan.moment (Jordan.fromVertices (Gen.regular4Vertices 2 ⟨5, 7⟩)) 0 1 = 56 := by
  rw [(source_regular4_centroid_is_centre 2 ⟨5, 7⟩).2]; norm_num

end ShapeVerif.C16
