/-
C17 — the constructors of a closed curve agree, and open chains are rejected.
Informal property: `JordanCurve.from_vertices(vs)` and `JordanCurve.from_segments(segments of vs)`
describe the same curve; `vertices` gives each vertex once, in order; `from_segments` rejects a chain
whose consecutive segments do not meet (within `Point2D.__eq__`, 1e-9) and, when it accepts, the result
has exactly shared junctions, the same number of segments and the same degrees; the box of a curve
contains every control point and every curve point; the sign of the signed area is the orientation,
and reversing the vertex order negates it.

Proved for ALL vertex lists, ALL segment lists, ALL parameters `t ∈ [0,1]` and EVERY degree, with one exception:
the exact junctions of an accepted chain need segments with at least two control points (degree ≥ 1).  That
restriction is NECESSARY in the model: a one-point "segment" is replaced by the next start point, which is only
1e-9-close to the previous end point (example at the end).  The statement about reversed vertex order carries
`a + b ≤ 15`, which its proof does not use: reversal of an edge negates its integral for all exponents.
Not proved here: `from_ctrlpoints`/`from_full_curve` (not modelled), and that the Python objects at the
junctions are shared by identity (that is C08's heap model).
-/
import ShapeVerif.Proofs.Constructors
import ShapeVerif.Proofs.StraightEdges

namespace ShapeVerif.C17
open ShapeVerif ShapeVerif.Misc

/-! ### the two constructors agree -/

/-- `Point2D.__eq__` is reflexive (|0| ≤ 1e-9) -/
theorem point_eq_refl (p : Pt) : Pt.eqTol p p = true := Pt.eqTol_refl p

/-- every exactly closed chain of non-empty segments is accepted and returned unchanged -/
theorem fromSegments_closedExact (j : Jordan) (h : ClosedExact j) : Jordan.fromSegments j = some j :=
  Jordan.fromSegments_of_closedExact h

/-- a vertex description and its segment description give the same curve -/
theorem fromSegments_fromVertices (vs : List Pt) :
    Jordan.fromSegments (Jordan.fromVertices vs) = some (Jordan.fromVertices vs) := by
  cases vs with
  | nil => rfl
  | cons v t => exact Jordan.fromSegments_of_closedExact (closedExact_fromVertices (by simp))

/-- each vertex once, in order -/
theorem vertices_fromVertices (vs : List Pt) : (Jordan.fromVertices vs).vertices = vs :=
  Geom.vertices_fromVertices vs

/-- a polygon with `n` vertices has `n` straight segments -/
theorem length_fromVertices (vs : List Pt) :
    (Jordan.fromVertices vs).length = vs.length ∧ (Jordan.fromVertices vs).isPolygon = true :=
  ⟨Geom.length_fromVertices vs, Geom.fromVertices_polygon vs⟩

/-! ### open chains are rejected -/

/-- `from_segments` fails exactly on the non-empty chains that are not closed within the tolerance -/
theorem fromSegments_none_iff (j : Jordan) :
    Jordan.fromSegments j = none ↔ (j ≠ [] ∧ Jordan.closedChain j = false) := by
  cases j with
  | nil => simp [Jordan.fromSegments]
  | cons s0 rest =>
    rw [Jordan.fromSegments_cons]
    cases Jordan.closedChain (s0 :: rest) <;> simp

/-- closedness means: every end point `==` (1e-9) the start point of the next segment, cyclically,
and no segment is empty -/
theorem closedChain_iff (s0 : Seg) (rest : Jordan) :
    Jordan.closedChain (s0 :: rest) = true ↔
      ∀ ab ∈ (s0 :: rest).zip (rest ++ [s0]), ∃ e s, ab.1.getLast? = some e ∧ ab.2.head? = some s
        ∧ Pt.eqTol e s = true :=
  Jordan.closedChain_iff s0 rest

/-! ### what an accepted chain looks like -/

/-- same number of segments, and every segment keeps its number of control points (its degree) -/
theorem fromSegments_ok_lengths (j j' : Jordan) (h : Jordan.fromSegments j = some j') :
    j'.length = j.length ∧ List.map List.length j' = List.map List.length j := by
  rcases Jordan.fromSegments_eq_some h with ⟨rfl, rfl⟩ | ⟨s0, rest, rfl, hcc, rfl⟩
  · exact ⟨rfl, rfl⟩
  · have hl := weldChain_lengths s0 rest s0 (Jordan.closedChain_nonempty hcc)
    exact ⟨by simpa using congrArg List.length hl, hl⟩

/-- consecutive segments of the result share their junction EXACTLY (last of one = first of the next,
cyclically), for chains of segments of degree ≥ 1 -/
theorem fromSegments_ok_closed (j j' : Jordan) (h : Jordan.fromSegments j = some j')
    (hdeg : ∀ s ∈ j, 2 ≤ s.length) : Geom.ExactClosed j' := by
  rcases Jordan.fromSegments_eq_some h with ⟨rfl, rfl⟩ | ⟨s0, rest, rfl, -, rfl⟩
  · intro ab hab; cases hab
  · exact weldChain_exactClosed s0 rest hdeg

/-- … so the result satisfies `ClosedExact`, keeps the degrees, and is a fixed point of `from_segments` -/
theorem fromSegments_idempotent (j j' : Jordan) (h : Jordan.fromSegments j = some j') (hne : j ≠ [])
    (hdeg : ∀ s ∈ j, 2 ≤ s.length) : ClosedExact j' ∧ Jordan.fromSegments j' = some j' := by
  obtain ⟨hl, hls⟩ := fromSegments_ok_lengths j j' h
  -- the pieces of `j'` have the lengths of those of `j`
  have h2 : ∀ s ∈ j', 2 ≤ s.length := List.forall_mem_map.mp (hls ▸ List.forall_mem_map.mpr hdeg)
  have hce : ClosedExact j' :=
    ⟨fun e => hne (List.length_eq_zero_iff.mp (by rw [← hl, e]; rfl)), fun s hs e => by simpa [e] using h2 s hs,
      fromSegments_ok_closed j j' h hdeg⟩
  exact ⟨hce, Jordan.fromSegments_of_closedExact hce⟩

/-! ### the box -/

/-- every control point of every segment is in the box of the curve -/
theorem box_contains_ctrl (j : Jordan) : ∀ s ∈ j, ∀ p ∈ s, (Jordan.box j).contains p = true :=
  fun s hs _ hp => Box.contains_ofPts (List.mem_flatMap.mpr ⟨s, hs, hp⟩)

/-- the box encloses every point of the curve: every segment, every degree, every `t ∈ [0, 1]` -/
theorem box_contains_curve (j : Jordan) (s : Seg) (hs : s ∈ j) (hne : s ≠ []) (t : Rat)
    (h0 : 0 ≤ t) (h1 : t ≤ 1) : (Jordan.box j).contains (dcEval s t) = true :=
  dcEval_contains _ s hne ⟨h0, h1⟩ (box_contains_ctrl j s hs)

/-! ### orientation -/

/-- the sign of the signed area is the orientation -/
theorem ccw_iff (j : Jordan) : j.ccw = true ↔ 0 < j.area := by simp [Jordan.ccw]

/-- reversing the vertex order negates `∫ x^a y^b dy` … -/
theorem integral_fromVertices_reverse (vs : List Pt) (a b : Nat) (h : a + b ≤ 15) :
    jordanExactVertical (Jordan.fromVertices vs.reverse) a b
      = - jordanExactVertical (Jordan.fromVertices vs) a b := jordanExactVertical_fromVertices_reverse vs a b

/-- … in particular the signed area … -/
theorem area_fromVertices_reverse (vs : List Pt) :
    Jordan.area (Jordan.fromVertices vs.reverse) = - Jordan.area (Jordan.fromVertices vs) :=
  jordanExactVertical_fromVertices_reverse vs 1 0

/-- … and hence the orientation of every polygon of non-zero area -/
theorem ccw_fromVertices_reverse (vs : List Pt) (h : Jordan.area (Jordan.fromVertices vs) ≠ 0) :
    (Jordan.fromVertices vs.reverse).ccw = !(Jordan.fromVertices vs).ccw := by
  rw [Jordan.ccw, Jordan.ccw, area_fromVertices_reverse, ← decide_not]
  exact decide_eq_decide.mpr
    ⟨fun h' => not_lt.mpr (neg_pos.mp h').le, fun h' => neg_pos.mpr (lt_of_le_of_ne (not_lt.mp h') h)⟩

/-! ### non-vacuity -/

example : Jordan.fromVertices [⟨0, 0⟩, ⟨4, 0⟩, ⟨0, 3⟩]
    = [[⟨0, 0⟩, ⟨4, 0⟩], [⟨4, 0⟩, ⟨0, 3⟩], [⟨0, 3⟩, ⟨0, 0⟩]] := by decide +kernel

/-- an open chain (the last segment ends at (0,1), not at the start (0,0)) is rejected -/
example : Jordan.fromSegments [[⟨0, 0⟩, ⟨4, 0⟩], [⟨4, 0⟩, ⟨0, 3⟩], [⟨0, 3⟩, ⟨0, 1⟩]] = none := by
  decide +kernel

/-- a chain with a gap in the middle is rejected too -/
example : Jordan.fromSegments [[⟨0, 0⟩, ⟨4, 0⟩], [⟨4, 1⟩, ⟨0, 3⟩], [⟨0, 3⟩, ⟨0, 0⟩]] = none := by
  decide +kernel

/-- a chain closed only up to 1e-10 is accepted and welded: the end point becomes the next start -/
example : Jordan.fromSegments [[⟨0, 0⟩, ⟨4, 0⟩], [⟨4, 1/10000000000⟩, ⟨2, 5⟩, ⟨0, 3⟩], [⟨0, 3⟩, ⟨0, 0⟩]]
    = some [[⟨0, 0⟩, ⟨4, 1/10000000000⟩], [⟨4, 1/10000000000⟩, ⟨2, 5⟩, ⟨0, 3⟩], [⟨0, 3⟩, ⟨0, 0⟩]] := by
  decide +kernel

/-- the degree hypothesis of `fromSegments_ok_closed` is needed: with a one-point segment the welded
chain is not exactly closed (the junction (4,0) / (4,1e-10) stays open) -/
example :
    Jordan.fromSegments [[⟨0, 0⟩, ⟨4, 0⟩], [⟨4, 0⟩], [⟨4, 1/10000000000⟩, ⟨0, 0⟩]]
      = some [[⟨0, 0⟩, ⟨4, 0⟩], [⟨4, 1/10000000000⟩], [⟨4, 1/10000000000⟩, ⟨0, 0⟩]] := by
  decide +kernel

example : (Jordan.fromVertices [⟨0, 0⟩, ⟨4, 0⟩, ⟨0, 3⟩]).ccw = true
    ∧ (Jordan.fromVertices [⟨0, 0⟩, ⟨4, 0⟩, ⟨0, 3⟩].reverse).ccw = false
    ∧ Jordan.area (Jordan.fromVertices [⟨0, 0⟩, ⟨4, 0⟩, ⟨0, 3⟩]) = 6 := by decide +kernel

example : Jordan.box [[⟨0, 0⟩, ⟨4, 0⟩], [⟨4, 0⟩, ⟨5, 2⟩, ⟨4, 4⟩], [⟨4, 4⟩, ⟨3, 5⟩, ⟨1, 5⟩, ⟨0, 0⟩]]
    = ⟨⟨0, 0⟩, ⟨5, 5⟩⟩ := by decide +kernel

end ShapeVerif.C17
