/-
C18 — segment calculus is exact: evaluation, derivative, split, box.
The statements are on explicit control polygons; each is the instance of the theorem for every degree
(Props/C18b, Proofs/Bezier, Proofs/Deriv).
Quantifiers: every theorem is for ALL rational control points and ALL parameters; degrees 1..6 for the Bernstein form,
1..3 for split, derivative and `box_contains_eval`, 3 for `coordPoly_eval_3`, and EVERY degree for `box_contains_curve`.
-/
import ShapeVerif.Props.C18b

namespace ShapeVerif.C18
open ShapeVerif

/-! `segment(t)` (basis matrix + Horner, as the code computes it) is the Bernstein sum of the docs -/
theorem eval_eq_bernstein_1 (p0 p1 : Pt) (t : Rat) : evalSeg [p0, p1] t = bernsteinSeg [p0, p1] t :=
  evalSeg_eq_bernsteinSeg _ t
theorem eval_eq_bernstein_2 (p0 p1 p2 : Pt) (t : Rat) :
    evalSeg [p0, p1, p2] t = bernsteinSeg [p0, p1, p2] t :=
  evalSeg_eq_bernsteinSeg _ t
theorem eval_eq_bernstein_3 (p0 p1 p2 p3 : Pt) (t : Rat) :
    evalSeg [p0, p1, p2, p3] t = bernsteinSeg [p0, p1, p2, p3] t :=
  evalSeg_eq_bernsteinSeg _ t
theorem eval_eq_bernstein_4 (p0 p1 p2 p3 p4 : Pt) (t : Rat) :
    evalSeg [p0, p1, p2, p3, p4] t = bernsteinSeg [p0, p1, p2, p3, p4] t :=
  evalSeg_eq_bernsteinSeg _ t
theorem eval_eq_bernstein_5 (p0 p1 p2 p3 p4 p5 : Pt) (t : Rat) :
    evalSeg [p0, p1, p2, p3, p4, p5] t = bernsteinSeg [p0, p1, p2, p3, p4, p5] t :=
  evalSeg_eq_bernsteinSeg _ t
theorem eval_eq_bernstein_6 (p0 p1 p2 p3 p4 p5 p6 : Pt) (t : Rat) :
    evalSeg [p0, p1, p2, p3, p4, p5, p6] t = bernsteinSeg [p0, p1, p2, p3, p4, p5, p6] t :=
  evalSeg_eq_bernsteinSeg _ t

/-- `box()` contains the curve point for every parameter in [0,1] — EVERY degree (de Casteljau form) -/
theorem box_contains_curve (s : Seg) (t : Rat) (hs : s ≠ []) (ht : 0 ≤ t ∧ t ≤ 1) :
    (Seg.box s).contains (dcEval s t) = true := dcEval_in_box s t ht

/-- … and therefore `box()` contains `segment(t)` as the code evaluates it (degrees 1–3) -/
theorem box_contains_eval_1 (p0 p1 : Pt) (t : Rat) (ht : 0 ≤ t ∧ t ≤ 1) :
    (Seg.box [p0, p1]).contains (evalSeg [p0, p1] t) = true :=
  box_contains_curve_all _ (List.cons_ne_nil _ _) t ht
theorem box_contains_eval_2 (p0 p1 p2 : Pt) (t : Rat) (ht : 0 ≤ t ∧ t ≤ 1) :
    (Seg.box [p0, p1, p2]).contains (evalSeg [p0, p1, p2] t) = true :=
  box_contains_curve_all _ (List.cons_ne_nil _ _) t ht
theorem box_contains_eval_3 (p0 p1 p2 p3 : Pt) (t : Rat) (ht : 0 ≤ t ∧ t ≤ 1) :
    (Seg.box [p0, p1, p2, p3]).contains (evalSeg [p0, p1, p2, p3] t) = true :=
  box_contains_curve_all _ (List.cons_ne_nil _ _) t ht

/-! split pieces retrace the segment: left(s) = seg(t0·s), right(s) = seg(t0 + s·(1−t0)) -/
theorem split_left_2 (p0 p1 p2 : Pt) (t0 u : Rat) :
    evalSeg (splitAt [p0, p1, p2] t0).1 u = evalSeg [p0, p1, p2] (t0 * u) :=
  evalSeg_splitAt_left _ t0 u
theorem split_right_2 (p0 p1 p2 : Pt) (t0 u : Rat) :
    evalSeg (splitAt [p0, p1, p2] t0).2 u = evalSeg [p0, p1, p2] (t0 + u * (1 - t0)) :=
  evalSeg_splitAt_right _ t0 u
theorem split_left_1 (p0 p1 : Pt) (t0 u : Rat) :
    evalSeg (splitAt [p0, p1] t0).1 u = evalSeg [p0, p1] (t0 * u) :=
  evalSeg_splitAt_left _ t0 u
theorem split_right_1 (p0 p1 : Pt) (t0 u : Rat) :
    evalSeg (splitAt [p0, p1] t0).2 u = evalSeg [p0, p1] (t0 + u * (1 - t0)) :=
  evalSeg_splitAt_right _ t0 u
theorem split_left_3 (p0 p1 p2 p3 : Pt) (t0 u : Rat) :
    evalSeg (splitAt [p0, p1, p2, p3] t0).1 u = evalSeg [p0, p1, p2, p3] (t0 * u) :=
  evalSeg_splitAt_left _ t0 u
theorem split_right_3 (p0 p1 p2 p3 : Pt) (t0 u : Rat) :
    evalSeg (splitAt [p0, p1, p2, p3] t0).2 u = evalSeg [p0, p1, p2, p3] (t0 + u * (1 - t0)) :=
  evalSeg_splitAt_right _ t0 u

/-! `derivate()` is the derivative: its value is the formal derivative of the coordinate polynomial -/
theorem deriv_is_derivative_2 (a b c t : Rat) :
    evalCoord (derivCoord [a, b, c]) t = peval (pderiv (coordPoly [a, b, c])) t :=
  deriv_is_derivative _ t
theorem deriv_is_derivative_3 (a b c d t : Rat) :
    evalCoord (derivCoord [a, b, c, d]) t = peval (pderiv (coordPoly [a, b, c, d])) t :=
  deriv_is_derivative _ t
theorem deriv_is_derivative_1 (a b t : Rat) :
    evalCoord (derivCoord [a, b]) t = peval (pderiv (coordPoly [a, b])) t :=
  deriv_is_derivative _ t

/-- the coordinate polynomial really is the curve: `peval (coordPoly cs) t = evalCoord cs t` (degree 3) -/
theorem coordPoly_eval_3 (a b c d t : Rat) : peval (coordPoly [a, b, c, d]) t = evalCoord [a, b, c, d] t :=
  peval_coordPoly _ t

/-- non-vacuity: a concrete cubic, its value at 1/3, and the box test -/
example : evalSeg [⟨0,0⟩, ⟨1,2⟩, ⟨3,0⟩, ⟨4,1⟩] (1/3) = ⟨34/27, 25/27⟩ := by
  simp only [evalSeg, Seg.xs, Seg.ys, List.map_cons, List.map_nil, evalCoord_four]; norm_num

end ShapeVerif.C18
