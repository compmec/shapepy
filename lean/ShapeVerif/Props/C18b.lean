/-
C18b — the segment calculus for EVERY degree: `segment(t)` (Horner on the basis matrix) is the Bernstein sum of the
documentation and the de Casteljau value, the curve lies in the box of its control points, `derivate()` is the formal
derivative, reversal reparametrises by t ↦ 1 − t, and the two pieces of `split` retrace the segment and meet at seg(t0).
C18.lean states instances on explicit control polygons.
SOURCE TIE (Gen/Arith.lean is regenerated from curve.py on every run): `Math.comb`, `Math.horner_method` and the entry rule
of `Math.bezier_caract_matrix` as written in the source equal the model's, so `source_eval_is_bernstein` is about the code
as written.
-/
import ShapeVerif.Proofs.Deriv
import ShapeVerif.Proofs.Chain
import ShapeVerif.Gen.Arith

namespace ShapeVerif.C18
open ShapeVerif

theorem comb_is_binomial (n i : Nat) (h : i ≤ n) : comb n i = Nat.choose n i := comb_eq_choose n i h

theorem eval_coord_is_bernstein_all (cs : List Rat) (t : Rat) : evalCoord cs t = bernsteinCoord cs t :=
  evalCoord_eq_bernsteinCoord cs t

/-- `segment(t)` is the Bernstein sum, for every degree -/
theorem eval_is_bernstein_all (s : Seg) (t : Rat) : evalSeg s t = bernsteinSeg s t := evalSeg_eq_bernsteinSeg s t

/-- … and the de Casteljau value -/
theorem eval_is_deCasteljau_all (s : Seg) (t : Rat) : evalSeg s t = dcEval s t :=
  evalSeg_eq_dcEval s t

/-- the curve lies in the bounding box of its control points: every degree, every t ∈ [0,1] -/
theorem box_contains_curve_all (s : Seg) (hs : s ≠ []) (t : Rat) (ht : 0 ≤ t ∧ t ≤ 1) :
    (Seg.box s).contains (evalSeg s t) = true := evalSeg_in_box s t ht

/-- `derivate()` is the derivative: every degree -/
theorem derivate_is_derivative_all (cs : List Rat) (t : Rat) :
    evalCoord (derivCoord cs) t = peval (pderiv (coordPoly cs)) t := deriv_is_derivative cs t

theorem coordPoly_derivative_all (cs : List Rat) (h2 : 2 ≤ cs.length) :
    coordPoly (derivCoord cs) = pderiv (coordPoly cs) := coordPoly_derivCoord cs h2

theorem derivate_segment_all (s : Seg) (t : Rat) :
    (evalSeg (derivSeg s) t).x = peval (pderiv (coordPoly s.xs)) t ∧
    (evalSeg (derivSeg s) t).y = peval (pderiv (coordPoly s.ys)) t :=
  ⟨evalCoord_derivSeg (·.x) (fun _ _ _ => rfl) rfl s t, derivSeg_derivOK s t⟩

/-- reversing the control polygon reparametrises by t ↦ 1 − t: every degree -/
theorem eval_reverse_all (s : Seg) (t : Rat) : evalSeg s.reverse t = evalSeg s (1 - t) := evalSeg_reverse s t

/-- `split`: the left piece retraces seg on [0, t0] -/
theorem split_left_all (s : Seg) (t0 u : Rat) : evalSeg (splitAt s t0).1 u = evalSeg s (t0 * u) :=
  evalSeg_splitAt_left s t0 u

/-- `split`: the right piece retraces seg on [t0, 1] -/
theorem split_right_all (s : Seg) (t0 u : Rat) :
    evalSeg (splitAt s t0).2 u = evalSeg s (t0 + u * (1 - t0)) :=
  evalSeg_splitAt_right s t0 u

/-- `split`: both pieces keep the degree, keep the outer end points, and meet exactly at seg(t0) -/
theorem split_junction_all (s : Seg) (hs : s ≠ []) (t0 : Rat) :
    (splitAt s t0).1.length = s.length ∧ (splitAt s t0).2.length = s.length ∧
    (splitAt s t0).1.head? = s.head? ∧ (splitAt s t0).2.getLast? = s.getLast? ∧
    (splitAt s t0).1.getLast? = (splitAt s t0).2.head? ∧ (splitAt s t0).1.getLast? = some (evalSeg s t0) := by
  obtain ⟨h1, h2⟩ := length_splitAt s t0
  obtain ⟨n1, n2⟩ := splitAt_ne_nil s hs t0
  have hd {l : Seg} (h : l ≠ []) := Geom.head?_eq_headD h
  have hl {l : Seg} (h : l ≠ []) := Geom.getLast?_eq_getLastD h
  refine ⟨h1, h2, ?_, ?_, ?_, ?_⟩
  · rw [hd n1, hd hs, splitAt_fst_headD]
  · rw [hl n2, hl hs, splitAt_snd_getLastD]
  · rw [hl n1, hd n2, splitAt_fst_getLastD, splitAt_snd_headD]
  · rw [hl n1, splitAt_fst_getLastD]

/-! ### the kernels as written in the source -/

/-- dividing by 1 first changes nothing: the division loop of `Math.comb` may start at 1 or at 2 -/
theorem foldl_div_one (l : List Nat) (v : Nat) : (1 :: l).foldl (fun a j => a / j) v = l.foldl (fun a j => a / j) v := by
  simp

set_option linter.unusedTactic false in
set_option linter.unreachableTactic false in
/-- `Math.comb` as written in curve.py is the model's `comb` wherever it is called (i ≤ n) … -/
theorem source_comb_is_model (n i : Nat) (h : i ≤ n) : Gen.comb n i = comb n i := by
  -- (two scripts: the division loop written `range(2, i + 1)` as in the source today, or `range(1, i + 1)` - dividing by 1 first changes nothing)
  first
  | (simp only [Gen.comb, comb, List.range'_eq_map_range, List.foldl_map]
     have h1 : n + 1 - (n - i + 1) = i := by omega
     have h2 : i + 1 - 2 = i - 1 := by omega
     rw [h1, h2]
     congr 1
     · funext v k; rw [Nat.add_comm 2 k])
  | (simp only [Gen.comb, comb]
     have h1 : n + 1 - (n - i + 1) = i := by omega
     rw [h1]
     cases i with
     | zero => simp
     | succ m =>
       have e : List.range' 1 (m + 1 + 1 - 1) = 1 :: List.range' 2 m := by
         rw [show m + 1 + 1 - 1 = m + 1 by omega, List.range'_succ]
       rw [e, foldl_div_one]
       simp only [List.range'_eq_map_range, List.foldl_map, Nat.add_sub_cancel]
       congr 1
       · funext v k; rw [Nat.add_comm 2 k])

/-- … hence the binomial coefficient -/
theorem source_comb_is_binomial (n i : Nat) (h : i ≤ n) : Gen.comb n i = Nat.choose n i := by
  rw [source_comb_is_model n i h, comb_eq_choose n i h]

/-- `Math.horner_method` as written in the source is the model's Horner scheme -/
theorem source_horner_is_model : Gen.horner = horner := by
  funext t cs; simp only [Gen.horner, horner]

/-- the entry rule of `Math.bezier_caract_matrix` as written in the source is the model's -/
theorem source_caract_is_model (deg i j : Nat) (h : i ≤ deg) : Gen.caractEntry deg i j = caractEntry deg i j := by
  simp only [Gen.caractEntry, caractEntry]
  by_cases hj : j ≤ deg - i
  · have : j < deg - i + 1 := by omega
    rw [if_pos this, if_pos hj, source_comb_is_model deg i h, source_comb_is_model (deg - i) j hj]
    have : ((deg + i + j) % 2 ≠ 0) ↔ ((deg + i + j) % 2 = 1) := by omega
    simp only [this]
  · have : ¬ j < deg - i + 1 := by omega
    rw [if_neg this, if_neg hj]

/-- `BezierCurve.eval` assembled from the SOURCE kernels: Horner on `ctrlpoints · matrix` -/
def sourceEvalCoord (cs : List Rat) (t : Rat) : Rat :=
  let deg := cs.length - 1
  Gen.horner t ((List.range (deg + 1)).map fun j => (cs.zipIdx.map fun (c, i) => c * (Gen.caractEntry deg i j : Rat)).sum)

/-- the source evaluation is the model evaluation … -/
theorem source_eval_is_model (cs : List Rat) (t : Rat) : sourceEvalCoord cs t = evalCoord cs t := by
  rw [sourceEvalCoord, source_horner_is_model]
  -- coefficient by coefficient, entry by entry: the source's entry rule on the rows `i < cs.length`
  refine congrArg (horner t) (List.map_congr_left fun j _ => congrArg List.sum (List.map_congr_left ?_))
  rintro ⟨c, i⟩ hi
  have hlt : i < cs.length := by
    have := List.mem_zipIdx hi
    omega
  simp only [source_caract_is_model (cs.length - 1) i j (by omega)]

/-- … hence the Bernstein sum of the documentation, for every degree -/
theorem source_eval_is_bernstein (cs : List Rat) (t : Rat) : sourceEvalCoord cs t = bernsteinCoord cs t := by
  rw [source_eval_is_model, evalCoord_eq_bernsteinCoord]

/-! non-vacuity -/
example : sourceEvalCoord [0, 1, 3, 4] (1/3) = 34/27 := by decide +kernel
example : Gen.comb 7 3 = 35 := by decide +kernel
example : (List.range 4).map (fun j => Gen.caractEntry 3 1 j) = [3, -6, 3, 0] := by decide +kernel

end ShapeVerif.C18
