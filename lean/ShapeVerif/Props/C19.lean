/-
C19 — directly constructed composites: `ConnectedShape([...])` and `DisjointShape([...])` built by the
user (not by an operator) mean what their documentation says, independently of the order of the arguments.

FULL STATEMENT (informal, over the real code): `ConnectedShape(simples)` is the intersection of the simple
shapes, `DisjointShape(parts)` the union of the parts; the order of the arguments is irrelevant for
membership, area / moments and `==`; `DisjointShape([])` and `DisjointShape([Empty, …])` are `EmptyShape`,
`DisjointShape([S])` is (a copy of) `S`, Empty entries are ignored; the complement of a ConnectedShape is
the union of the complements of its sub-shapes (De Morgan).

The constructors are modelled in `Model/Compose.lean` (`connectedNew`, `disjointNew`), value level:
the `subshapes` setters SORT their argument (by area, decreasing, stable), `DisjointShape.__new__`
filters Empty entries and collapses.  Inputs that make the Python constructor raise `AssertionError`
(a Whole or Disjoint entry) are mapped to `.empty` by the model; theorems about the meaning carry the
validity hypothesis `∀ s ∈ nonEmpty cs, s.isComp`; the permutation theorems hold without it.

What is PROVED here (all quantifiers unbounded):
 1. `sortBy_perm` — the model's insertion sort returns a permutation of its input (any comparison), and
    `connectedNew_sorted`: the curves of `connectedNew js` are in decreasing order of area.
 2. `connectedNew_meaning` — membership (both flags), winding membership and every moment of
    `connectedNew js` are those of the UNSORTED list: `all` over `js`, `shapeExactMoment js`.
 3. `connectedNew_perm_invariant` — a permuted argument list gives the same membership, region and moments.
 4. `disjointNew_collapse` — `[] ↦ Empty`, `[Empty, Empty] ↦ Empty`, all-Empty ↦ Empty, `[S] ↦ S` for
    S simple or connected, `Empty :: cs ↦` same as `cs`.
 5. `disjointNew_meaning` — membership = `any` over the entries (Empty entries contribute nothing),
    moments = sum over the entries; `disjointNew_perm_invariant`.
 6. `disjoint_moment_additive` — `Shape.moment` of any DisjointShape value is the sum over its components
    (and `connected_moment_additive` over the curves of a component).
 7. De Morgan at the predicate level: `complement_connected`, `complement_disjoint`, `not_all_eq_any_not`.

NOT proved: structural equality of the results under permutation (false in general: equal areas keep
their insertion order, as in Python); that the Python sort key `float(shape)` (a float) orders like the
exact rational area (ties/rounding: harness); validity of the user's input (disjointness of the parts,
holes inside the outer curve) is NOT checked by the Python constructors either — `wfProblems` (C06) is the
harness' check.
-/
import ShapeVerif.Proofs.Algebra

namespace ShapeVerif.C19
open ShapeVerif ShapeVerif.Alg ShapeVerif.C03

/-! ### (1) sorting -/
theorem sortBy_perm {α : Type} (lt : α → α → Bool) (l : List α) : (sortBy lt l).Perm l := ShapeVerif.sortBy_perm lt l

theorem connectedNew_sorted (js : List Jordan) :
    (connectedNew js).jordans.Pairwise (fun a b => b.area ≤ a.area) ∧ (connectedNew js).jordans.Perm js :=
  ⟨sortBy_pairwise (R := fun a b => b.area ≤ a.area) (fun _ _ _ h1 h2 => le_trans h2 h1)
      (fun _ _ h => le_of_lt (of_decide_eq_true h)) (fun _ _ h => not_lt.mp (of_decide_eq_false h)) js,
    ShapeVerif.sortBy_perm _ js⟩

/-! ### (2), (3) `ConnectedShape(simples)` -/
theorem connectedNew_meaning (js : List Jordan) :
    (∀ (r : Pt) (b : Bool), (connectedNew js).mem r b = js.all (memJ · r b)) ∧
    (∀ r : Pt, (connectedNew js).memW r = js.all (memW · r)) ∧
    (∀ a b : Nat, (connectedNew js).moment a b = shapeExactMoment js a b) :=
  ⟨fun _ _ => memAt_connectedNew _ js, fun _ => memAt_connectedNew _ js, connectedNew_moment js⟩

theorem connectedNew_perm_invariant (js js' : List Jordan) (h : js.Perm js') :
    (∀ (r : Pt) (b : Bool), (connectedNew js).mem r b = (connectedNew js').mem r b) ∧
    (∀ r : Pt, (connectedNew js).memW r = (connectedNew js').memW r) ∧
    (∀ a b : Nat, (connectedNew js).moment a b = (connectedNew js').moment a b) := by
  -- `mem` and `memW` are `memAt` of the per-curve answers by definition (`mem_eq_memAt`, `memW_eq_memAt`)
  have hm : ∀ reg, memAt reg (connectedNew js) = memAt reg (connectedNew js') := fun reg =>
    (memAt_connectedNew reg js).trans (h.all_eq.trans (memAt_connectedNew reg js').symm)
  refine ⟨fun r b => hm fun j => memJ j r b, fun r => hm fun j => memW j r, fun a b => ?_⟩
  rw [connectedNew_moment, connectedNew_moment]
  exact shapeExactMoment_perm h a b

/-- the same for shape VALUES that were not built by the constructor -/
theorem connected_perm_invariant (js js' : List Jordan) (h : js.Perm js') :
    (∀ (r : Pt) (b : Bool), (Shape.connected js).mem r b = (Shape.connected js').mem r b) ∧
    (∀ r : Pt, (Shape.connected js).memW r = (Shape.connected js').memW r) ∧
    (∀ a b : Nat, (Shape.connected js).moment a b = (Shape.connected js').moment a b) :=
  ⟨fun _ _ => h.all_eq, fun _ => h.all_eq, fun a b => shapeExactMoment_perm h a b⟩

/-! ### (4), (5) `DisjointShape(parts)` -/
theorem disjointNew_collapse :
    disjointNew [] = .empty ∧ disjointNew [.empty, .empty] = .empty ∧
    (∀ cs : List Shape, (∀ s ∈ cs, s = .empty) → disjointNew cs = .empty) ∧
    (∀ j : Jordan, disjointNew [.simple j] = .simple j) ∧
    (∀ js : List Jordan, disjointNew [.connected js] = .connected js) ∧
    (∀ cs : List Shape, disjointNew (.empty :: cs) = disjointNew cs) :=
  ⟨rfl, rfl, disjointNew_all_empty, fun _ => disjointNew_single _ rfl, fun _ => disjointNew_single _ rfl,
    disjointNew_cons_empty⟩

theorem disjointNew_meaning (cs : List Shape) (hv : ∀ s ∈ nonEmpty cs, s.isComp = true) :
    (∀ (r : Pt) (b : Bool), (disjointNew cs).mem r b = cs.any (·.mem r b)) ∧
    (∀ r : Pt, (disjointNew cs).memW r = cs.any (·.memW r)) ∧
    (∀ a b : Nat, (disjointNew cs).moment a b = (cs.map (·.moment a b)).sum) :=
  ⟨fun r b => memAt_disjointNew (fun j => memJ j r b) cs hv, fun r => memAt_disjointNew (fun j => memW j r) cs hv,
    disjointNew_moment cs hv⟩

/-- two or more parts: the result is a DisjointShape whose components are a permutation of the parts -/
theorem disjointNew_components (cs : List Shape) (hv : ∀ s ∈ nonEmpty cs, s.isComp = true)
    (h2 : 2 ≤ (nonEmpty cs).length) :
    ∃ comps, disjointNew cs = .disjoint comps ∧ comps.Perm ((nonEmpty cs).map Shape.compOf) := by
  rw [disjointNew_valid cs hv]
  -- `h2` leaves only the third form of `collapse`
  match nonEmpty cs, h2 with
  | a :: b :: t, _ => exact ⟨_, rfl, ShapeVerif.sortBy_perm _ _⟩

/-- invalid input (the Python constructor raises) is mapped to `.empty` by the model -/
theorem disjointNew_invalid_input (cs : List Shape) (h : ¬ ∀ s ∈ nonEmpty cs, s.isComp = true) :
    disjointNew cs = .empty := disjointNew_invalid cs h

theorem disjointNew_perm_invariant (cs cs' : List Shape) (h : cs.Perm cs') :
    (∀ (r : Pt) (b : Bool), (disjointNew cs).mem r b = (disjointNew cs').mem r b) ∧
    (∀ r : Pt, (disjointNew cs).memW r = (disjointNew cs').memW r) ∧
    (∀ a b : Nat, (disjointNew cs).moment a b = (disjointNew cs').moment a b) := by
  -- valid input: the three meanings are `any` / sums over the entries; invalid input: both sides are `.empty`
  by_cases hv : ∀ s ∈ nonEmpty cs, s.isComp = true
  · have hv' := (valid_perm h).mp hv
    have hm : ∀ reg, memAt reg (disjointNew cs) = memAt reg (disjointNew cs') := fun reg =>
      (memAt_disjointNew reg cs hv).trans (h.any_eq.trans (memAt_disjointNew reg cs' hv').symm)
    refine ⟨fun r b => hm fun j => memJ j r b, fun r => hm fun j => memW j r, fun a b => ?_⟩
    rw [disjointNew_moment cs hv, disjointNew_moment cs' hv']
    exact (h.map _).sum_eq
  · rw [disjointNew_invalid cs hv, disjointNew_invalid cs' (fun hv' => hv ((valid_perm h).mpr hv'))]
    exact ⟨fun _ _ => rfl, fun _ => rfl, fun _ _ => rfl⟩

/-- the same for shape VALUES: the order of the components of a DisjointShape is irrelevant -/
theorem disjoint_perm_invariant (cs cs' : List (List Jordan)) (h : cs.Perm cs') :
    (∀ (r : Pt) (b : Bool), (Shape.disjoint cs).mem r b = (Shape.disjoint cs').mem r b) ∧
    (∀ r : Pt, (Shape.disjoint cs).memW r = (Shape.disjoint cs').memW r) ∧
    (∀ a b : Nat, (Shape.disjoint cs).moment a b = (Shape.disjoint cs').moment a b) := by
  refine ⟨fun _ _ => h.any_eq, fun _ => h.any_eq, fun a b => ?_⟩
  rw [disjoint_moment, disjoint_moment]
  exact (h.map _).sum_eq

/-! ### (6) additivity of the moments -/
theorem disjoint_moment_additive (cs : List (List Jordan)) (a b : Nat) :
    (Shape.disjoint cs).moment a b = (cs.map fun c => (Shape.connected c).moment a b).sum :=
  disjoint_moment cs a b

theorem connected_moment_additive (js : List Jordan) (a b : Nat) :
    (Shape.connected js).moment a b = (js.map fun j => (Shape.simple j).moment a b).sum := by
  simp [Shape.moment, Shape.jordans, shapeExactMoment_eq_sum]

/-- the sort key of the constructors is the area of the model -/
theorem compArea_is_area (c : List Jordan) : compArea c = (Shape.connected c).area := by
  simp [compArea, Shape.area, Shape.moment, Shape.jordans, shapeExactMoment]
  rfl

/-! ### (7) De Morgan -/
theorem not_all_eq_any_not {α : Type} (l : List α) (f : α → Bool) : (!(l.all f)) = l.any (fun x => !f x) :=
  List.not_all_eq_any_not
theorem not_any_eq_all_not {α : Type} (l : List α) (f : α → Bool) : (!(l.any f)) = l.all (fun x => !f x) :=
  List.not_any_eq_all_not

/-- `~Connected`: outside some sub-shape -/
theorem complement_connected (js : List Jordan) (r : Pt) :
    (!(Shape.connected js).memW r) = js.any (fun j => !(Shape.simple j).memW r) := List.not_all_eq_any_not

/-- `~Disjoint`: outside every component -/
theorem complement_disjoint (cs : List (List Jordan)) (r : Pt) :
    (!(Shape.disjoint cs).memW r) = cs.all (fun c => !(Shape.connected c).memW r) := List.not_any_eq_all_not

/-! ### non-vacuity -/
def big : Jordan := Jordan.fromVertices [⟨0,0⟩, ⟨4,0⟩, ⟨4,4⟩, ⟨0,4⟩]
def hole : Jordan := Jordan.fromVertices [⟨1,1⟩, ⟨1,2⟩, ⟨2,2⟩, ⟨2,1⟩]
def far : Jordan := Jordan.fromVertices [⟨6,0⟩, ⟨7,0⟩, ⟨7,1⟩, ⟨6,1⟩]
-- the constructor sorts: the hole (area −1) goes after the outer curve (area 16) whatever the input order
example : connectedNew [hole, big] = .connected [big, hole] ∧ connectedNew [big, hole] = .connected [big, hole] := by
  decide +kernel
example : (connectedNew [hole, big]).mem ⟨3, 3⟩ true = true ∧ (connectedNew [hole, big]).mem ⟨3/2, 3/2⟩ true = false ∧
    (connectedNew [hole, big]).area = 15 := by decide +kernel
example : disjointNew [.simple far, .empty, .connected [big, hole]] = .disjoint [[big, hole], [far]] := by
  decide +kernel
example : disjointNew [.empty, .simple far, .empty] = .simple far ∧ disjointNew [.whole, .simple far] = .empty := by
  decide +kernel
example : (disjointNew [.simple far, .connected [big, hole]]).area = 16 := by decide +kernel

end ShapeVerif.C19
