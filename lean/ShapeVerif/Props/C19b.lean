/-
C19b — `DisjointShape([...])` collapses as documented BECAUSE of the order of its statements (regenerated from the source).

`Gen.disjointNewSteps` lists the statements of `DisjointShape.__new__` in source order; `runNewSteps` executes them on a list of
operands.  PROVED for the regenerated list, for ALL operand lists:
 * `source_new_is_model` — the constructor as written equals the model's `disjointNew` on lists of valid components (Simple / Connected /
   Empty entries): Empty entries are dropped FIRST, then zero remaining operands give the Empty singleton, one remaining operand is
   returned (as a copy) and two or more are built into a DisjointShape of the non-empty operands;
 * `source_new_drops_empty` — Empty entries never change the result: `DisjointShape(l) = DisjointShape(l without Empty)`;
 * `source_new_singleton`, `source_new_all_empty` — `[…Empty…, s, …Empty…] ↦ s`, `[Empty, …, Empty] ↦ Empty`.
A reordering that tests the length before dropping the Empty entries (each statement still correct by itself) changes the regenerated
list and breaks all three.
-/
import ShapeVerif.Gen.Contain
import ShapeVerif.Proofs.Algebra

namespace ShapeVerif.C19
open ShapeVerif

theorem source_new_steps : Gen.disjointNewSteps = [.removeEmpty, .zeroIsEmpty, .oneIsCopy, .build] := rfl

/-- the constructor as written, on any list: decided by the non-empty operands only -/
theorem source_new_cases (l : List Shape) : runNewSteps Gen.disjointNewSteps l = some (Alg.collapse (Alg.nonEmpty l)) := by
  -- the first statement drops the Empty entries; the other three are `collapse`, case by case
  change runNewSteps _ (Alg.nonEmpty l) = _
  generalize Alg.nonEmpty l = l'
  match l' with
  | [] => rfl
  | [s] => rfl
  | a :: b :: t => rfl

/-- Empty entries never change the result -/
theorem source_new_drops_empty (l : List Shape) :
    runNewSteps Gen.disjointNewSteps l = runNewSteps Gen.disjointNewSteps (l.filter fun s => !s.isEmptyS) := by
  rw [source_new_cases, source_new_cases]
  simp only [Alg.nonEmpty, List.filter_filter, Bool.and_self]

/-- … which is the model's `disjointNew` whenever every non-empty operand is a valid component -/
theorem source_new_is_model (l : List Shape) (h : ∀ s ∈ l, s.isEmptyS = true ∨ s.isComp = true) :
    runNewSteps Gen.disjointNewSteps l = some (disjointNew l) := by
  rw [source_new_cases, Alg.disjointNew_valid]
  intro s hs
  obtain ⟨hl, hne⟩ := List.mem_filter.mp hs
  exact (h s hl).resolve_left fun he => by simp [he] at hne

theorem source_new_singleton (s : Shape) (hs : s.isEmptyS = false) (pre post : List Shape)
    (hpre : ∀ x ∈ pre, x.isEmptyS = true) (hpost : ∀ x ∈ post, x.isEmptyS = true) :
    runNewSteps Gen.disjointNewSteps (pre ++ s :: post) = some s := by
  have h1 : pre.filter (fun s => !s.isEmptyS) = [] := Alg.nonEmpty_eq_nil hpre
  have h2 : post.filter (fun s => !s.isEmptyS) = [] := Alg.nonEmpty_eq_nil hpost
  simp [source_new_cases, Alg.nonEmpty, Alg.collapse, List.filter_append, h1, h2, hs]

theorem source_new_all_empty (l : List Shape) (h : ∀ x ∈ l, x.isEmptyS = true) :
    runNewSteps Gen.disjointNewSteps l = some .empty := by
  rw [source_new_cases, Alg.nonEmpty_eq_nil h]
  rfl

/-! non-vacuity -/
def sqA : Shape := .simple (Jordan.fromVertices [⟨0,0⟩, ⟨1,0⟩, ⟨1,1⟩, ⟨0,1⟩])
def sqB : Shape := .simple (Jordan.fromVertices [⟨3,0⟩, ⟨5,0⟩, ⟨5,2⟩, ⟨3,2⟩])
example : runNewSteps Gen.disjointNewSteps [.empty, sqA, .empty] = some sqA := by decide +kernel
example : runNewSteps Gen.disjointNewSteps [.empty, .empty] = some .empty := by decide +kernel
example : (runNewSteps Gen.disjointNewSteps [sqA, .empty, sqB]).map Shape.kind = some 4 := by decide +kernel

end ShapeVerif.C19
