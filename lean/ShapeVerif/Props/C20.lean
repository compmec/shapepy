/-
C20 — plotting draws exactly the boundary.
Informal property: the matplotlib path built for a shape (`plot.patch_segment`, `path_jordan`,
`path_shape`) contains, per component, one filled path made of ALL its boundary curves; each curve
starts with MOVETO at its start point, continues with one group of LINETO / CURVE3 / CURVE4 codes per
segment (all control points but the first, code = degree), ends with CLOSEPOLY; reading the path back
with matplotlib's arities gives exactly the closed curves of the component — line, quadratic and
cubic pieces alike, in order.

Proved here (ALL curves with exact junctions and segments of degree 1, 2, 3; ALL lists of such curves):
  * the degree ↦ (first index, code, #codes, #vertices) table REGENERATED from `plot.patch_segment`
    (`Gen.patchTable`) equals the model's `patchCode` with first index 1 and counts = degree, for every
    degree < 8 — by `decide`, re-checked on every run.  The source has entries for degrees 1, 2, 3 only; 8 is an
    arbitrary range for `decide` that covers them and some degrees without entry (0, 4, …, 7);
  * `decodePath (encodeJordan j) = some [j]` and `decodePath (encodeComponent js) = some js`;
  * the code sequence: MOVETO first, CLOSEPOLY last, inner codes are drawing codes, length 1 + Σ degree + 1;
    the vertex sequence: start point, every control point but each segment's first, start point again;
  * `plotPlan`: nothing is drawn for Empty/Whole, one filled path per component, every boundary curve
    of the shape is in exactly one path (`(plotPlan s).flatten = s.jordans`), and every planned path is
    read back exactly (`plot_roundtrip`).
Not proved here: the behaviour of matplotlib itself (rasterisation, fill rule), the rounding of the
outline copy, and that the real `path_shape` output equals `encodeComponent` — the harness compares the
real arrays with the model on the test inputs.  Helper lemmas are in Proofs/Plot.lean.
-/
import ShapeVerif.Proofs.Plot
import ShapeVerif.Gen.Tables

namespace ShapeVerif.C20
open ShapeVerif ShapeVerif.Misc

/-! ### the regenerated table of `patch_segment` -/

/-- the source has an entry iff the model has a code, the entry starts at control point 1 (the first one is
skipped), uses the model's code, and emits `d` codes and `d` vertices; `d < 8` is the range `decide` enumerates
(entries exist for 1, 2, 3 only) -/
theorem patch_table_matches :
    ∀ d, d < 8 → Gen.patchTable d = (patchCode d).map fun c => (1, c, d, d) := by decide

/-- degrees 1, 2, 3 are LINETO, CURVE3, CURVE4; degrees 0 and 4 have no entry, as the source has it -/
theorem patch_table_rows :
    Gen.patchTable 1 = some (1, .lineto, 1, 1) ∧ Gen.patchTable 2 = some (1, .curve3, 2, 2)
    ∧ Gen.patchTable 3 = some (1, .curve4, 3, 3) ∧ Gen.patchTable 0 = none ∧ Gen.patchTable 4 = none := by
  decide

/-! ### reading a path back -/

/-- one filled path per component: it contains all the curves of the component, in order -/
theorem decode_encode_component (js : List Jordan) (hc : ∀ j ∈ js, ClosedExact j)
    (hd : ∀ j ∈ js, ∀ s ∈ j, s.length = 2 ∨ s.length = 3 ∨ s.length = 4) :
    decodePath (encodeComponent js) = some js := by
  simpa [decodePath, decodeGo] using Plot.decodeGo_component js hc hd [] []

/-- a closed curve of line, quadratic and cubic pieces is read back exactly, closed, in order: the component
of one curve -/
theorem decode_encode (j : Jordan) (hc : ClosedExact j)
    (hd : ∀ s ∈ j, s.length = 2 ∨ s.length = 3 ∨ s.length = 4) :
    decodePath (encodeJordan j) = some [j] := by
  have := decode_encode_component [j] (by simpa using hc) (by simpa using hd)
  simpa [encodeComponent] using this

/-! ### the code and vertex sequences of one curve -/

theorem encode_codes (j : Jordan) (hne : j ≠ [])
    (hd : ∀ s ∈ j, s.length = 2 ∨ s.length = 3 ∨ s.length = 4) :
    ((encodeJordan j).map (·.2)).head? = some .moveto
    ∧ ((encodeJordan j).map (·.2)).getLast? = some .closepoly
    ∧ ((encodeJordan j).map (·.2)).length = 1 + (List.map Seg.degree j).sum + 1 := by
  obtain ⟨s0, rest, rfl⟩ := List.exists_cons_of_ne_nil hne
  have e : (encodeJordan (s0 :: rest)).map (·.2)
      = (PCode.moveto :: ((s0 :: rest).flatMap patchSegment).map (·.2)) ++ [PCode.closepoly] := by
    simp only [encodeJordan, List.map_cons, List.map_append, List.map_nil]
  rw [e]
  refine ⟨rfl, List.getLast?_concat, ?_⟩
  rw [List.length_append, List.length_cons, List.length_map, Plot.length_flatMap_patch _ hd, Nat.add_comm 1]
  rfl

/-- between MOVETO and CLOSEPOLY there are only drawing codes -/
theorem encode_inner_codes (j : Jordan) :
    ∀ pc ∈ j.flatMap patchSegment, pc.2 ≠ .moveto ∧ pc.2 ≠ .closepoly := by
  intro pc hpc
  obtain ⟨s, _, hs⟩ := List.mem_flatMap.mp hpc
  exact Plot.codes_patchSegment_inner s pc hs

/-- the vertices of the path: the start point, then every control point of every segment except its
first one (which is the previous segment's last), then the start point again -/
theorem encode_vertices (s0 : Seg) (rest : Jordan)
    (hd : ∀ s ∈ s0 :: rest, s.length = 2 ∨ s.length = 3 ∨ s.length = 4) :
    (encodeJordan (s0 :: rest)).map (·.1)
      = s0.headD Pt.zero :: (s0 :: rest).flatMap List.tail ++ [s0.headD Pt.zero] := by
  simp only [encodeJordan, List.map_cons, List.map_append, List.map_nil]
  rw [Plot.verts_flatMap_patch _ hd]

/-! ### what is drawn for a shape -/

theorem plotPlan_empty : plotPlan .empty = [] := rfl
theorem plotPlan_whole : plotPlan .whole = [] := rfl
theorem plotPlan_simple (j : Jordan) : plotPlan (.simple j) = [[j]] := rfl
theorem plotPlan_connected (js : List Jordan) : plotPlan (.connected js) = [js] := rfl
/-- one filled path per component -/
theorem plotPlan_disjoint (cs : List (List Jordan)) :
    plotPlan (.disjoint cs) = cs ∧ (plotPlan (.disjoint cs)).length = cs.length := ⟨rfl, rfl⟩

/-- every boundary curve of the shape is in exactly one planned path, in order; nothing else is -/
theorem plotPlan_covers (s : Shape) : (plotPlan s).flatten = s.jordans := by
  cases s <;> simp [plotPlan, Shape.jordans]

/-- every planned path of a shape whose curves have exact junctions and degree ≤ 3 is read back as
exactly the curves of its component -/
theorem plot_roundtrip (s : Shape) (hc : ∀ j ∈ s.jordans, ClosedExact j)
    (hd : ∀ j ∈ s.jordans, ∀ sg ∈ j, sg.length = 2 ∨ sg.length = 3 ∨ sg.length = 4) :
    (plotPlan s).map (fun comp => decodePath (encodeComponent comp)) = (plotPlan s).map some := by
  apply List.map_congr_left
  intro comp hcomp
  have hsub : ∀ j ∈ comp, j ∈ s.jordans := by
    intro j hj
    rw [← plotPlan_covers]
    exact List.mem_flatten.mpr ⟨comp, hcomp, hj⟩
  exact decode_encode_component comp (fun j hj => hc j (hsub j hj)) (fun j hj => hd j (hsub j hj))

/-! ### non-vacuity -/

/-- a closed curve made of a line, a quadratic and a cubic piece -/
example : ClosedExact [[⟨0, 0⟩, ⟨4, 0⟩], [⟨4, 0⟩, ⟨5, 2⟩, ⟨4, 4⟩], [⟨4, 4⟩, ⟨3, 5⟩, ⟨1, 5⟩, ⟨0, 0⟩]] := by
  refine ⟨by simp, by simp, ?_⟩
  intro ab hab
  simp at hab
  rcases hab with rfl | rfl | rfl <;> rfl

example :
    encodeJordan [[⟨0, 0⟩, ⟨4, 0⟩], [⟨4, 0⟩, ⟨5, 2⟩, ⟨4, 4⟩], [⟨4, 4⟩, ⟨3, 5⟩, ⟨1, 5⟩, ⟨0, 0⟩]]
      = [(⟨0, 0⟩, .moveto), (⟨4, 0⟩, .lineto), (⟨5, 2⟩, .curve3), (⟨4, 4⟩, .curve3),
         (⟨3, 5⟩, .curve4), (⟨1, 5⟩, .curve4), (⟨0, 0⟩, .curve4), (⟨0, 0⟩, .closepoly)] := by
  decide +kernel

example :
    decodePath (encodeJordan [[⟨0, 0⟩, ⟨4, 0⟩], [⟨4, 0⟩, ⟨5, 2⟩, ⟨4, 4⟩], [⟨4, 4⟩, ⟨3, 5⟩, ⟨1, 5⟩, ⟨0, 0⟩]])
      = some [[[⟨0, 0⟩, ⟨4, 0⟩], [⟨4, 0⟩, ⟨5, 2⟩, ⟨4, 4⟩], [⟨4, 4⟩, ⟨3, 5⟩, ⟨1, 5⟩, ⟨0, 0⟩]]] := by
  decide +kernel

/-- every polygon built from vertices satisfies the hypotheses -/
example (vs : List Pt) (h : vs ≠ []) : ClosedExact (Jordan.fromVertices vs)
    ∧ ∀ s ∈ Jordan.fromVertices vs, s.length = 2 ∨ s.length = 3 ∨ s.length = 4 := by
  exact ⟨closedExact_fromVertices h, fun s hs => Or.inl ((Jordan.isPolygon_iff _).mp (Geom.fromVertices_polygon vs) s hs)⟩

/-- a square with a square hole: one path holding both curves, read back as both -/
example :
    decodePath (encodeComponent [Jordan.fromVertices [⟨0, 0⟩, ⟨4, 0⟩, ⟨4, 4⟩, ⟨0, 4⟩],
        Jordan.fromVertices [⟨1, 1⟩, ⟨1, 3⟩, ⟨3, 3⟩, ⟨3, 1⟩]])
      = some [Jordan.fromVertices [⟨0, 0⟩, ⟨4, 0⟩, ⟨4, 4⟩, ⟨0, 4⟩],
        Jordan.fromVertices [⟨1, 1⟩, ⟨1, 3⟩, ⟨3, 3⟩, ⟨3, 1⟩]] := by
  decide +kernel

/-- the hypothesis on the degrees is needed: a quartic piece has no path code and is not drawn -/
example : decodePath (encodeJordan [[⟨0, 0⟩, ⟨1, 0⟩, ⟨2, 1⟩, ⟨1, 2⟩, ⟨0, 0⟩]]) = some [[]] := by
  decide +kernel

end ShapeVerif.C20
